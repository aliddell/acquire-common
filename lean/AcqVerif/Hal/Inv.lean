import AcqVerif.Hal.Auto
/-!
# The HAL model produces only logs the protocol automaton accepts

Per HAL function: starting from an automaton state whose first live device mirrors the device
object (`LD d b`: same id, kind, `state` field; driver-running flag `b` with
`d.state = Running → b`), the function's events are accepted and lead to the mirror of the
device object it returns.  `step_inv` lifts this to `step`, `run_inv` to histories.
-/
namespace AcqVerif.Hal

theorem updLive_head {rest : List LiveDev} {x y : LiveDev} (h : y.id ∉ ids rest) (hy : y.id = x.id) :
    updLive (y :: rest) x = x :: rest := by
  have : rest.map (fun z => if z.id == x.id then x else z) = rest.map id :=
    List.map_congr_left fun z hz => by
      have : z.id ≠ x.id := fun hc => h (hy ▸ hc ▸ List.mem_map_of_mem hz)
      simp [this]
  simpa [updLive, hy] using this

theorem delLive_head {rest : List LiveDev} {y : LiveDev} (h : y.id ∉ ids rest) : delLive (y :: rest) y.id = rest := by
  simpa [delLive, ids] using h

/-! automaton steps on a state whose head is the device concerned -/
section steps
variable {n id st : Nat} {k : Kind} {b : Bool} {rest : List LiveDev}

@[simp] theorem findLive_head : findLive (⟨id, k, st, b⟩ :: rest) id = some ⟨id, k, st, b⟩ := by
  simp [findLive]

theorem step_rd (f : Field) : autoStep ⟨n, ⟨id, k, st, b⟩ :: rest⟩ (.rd id f) = some ⟨n, ⟨id, k, st, b⟩ :: rest⟩ := by
  simp [autoStep]

theorem step_describe (r : Nat) : autoStep ⟨n, ⟨id, k, st, b⟩ :: rest⟩ (.drvDescribe id r) = some ⟨n, ⟨id, k, st, b⟩ :: rest⟩ := by
  simp [autoStep]

theorem step_wr (h : id ∉ ids rest) (f : Field) (v : Nat) :
    autoStep ⟨n, ⟨id, k, st, b⟩ :: rest⟩ (.wr id f v) = some ⟨n, ⟨id, k, if f = .state then v else st, b⟩ :: rest⟩ := by
  by_cases hf : f = .state <;> simp [autoStep, hf, updLive_head (y := ⟨id, k, st, b⟩) (x := ⟨id, k, _, b⟩) h]

theorem step_close (h : id ∉ ids rest) (r : Nat) :
    autoStep ⟨n, ⟨id, k, st, b⟩ :: rest⟩ (.drvClose id r) = some ⟨n, rest⟩ := by
  simp [autoStep, delLive_head (y := ⟨id, k, st, b⟩) h]

theorem step_call (h : id ∉ ids rest) (f : Fn) (r : Nat) :
    autoStep ⟨n, ⟨id, k, st, b⟩ :: rest⟩ (.call id f r) =
      (callStep ⟨id, k, st, b⟩ f r).map (fun x' => ⟨n, x' :: rest⟩) := by
  cases hc : callStep ⟨id, k, st, b⟩ f r with
  | none => simp [autoStep, hc]
  | some x' => simp [autoStep, hc, updLive_head (y := ⟨id, k, st, b⟩) h (callStep_id hc).symm]

theorem step_open (kk : Kind) (i : Nat) (l : List LiveDev) :
    autoStep ⟨n, l⟩ (.drvOpen Ok (some (n, kk, i))) = some ⟨n + 1, ⟨n, kk, i, decide (i = Running)⟩ :: l⟩ := by
  simp [autoStep]

theorem step_open_none (v : Nat) (a : Auto) : autoStep a (.drvOpen v none) = some a := by
  simp [autoStep]
end steps

/-- the automaton's view of a device object -/
def LD (d : Dev) (b : Bool) : LiveDev := ⟨d.id, d.kind, d.state, b⟩

/-- `out` (what a HAL function returns on the device object `d`: new object, events, status, remaining answers)
keeps the automaton in step with the object -/
def Keeps (d : Dev) (out : Dev × List Ev × Nat × Q) : Prop :=
  ∀ (n : Nat) (rest : List LiveDev) (b : Bool), d.id ∉ ids rest → (d.state = Running → b = true) →
    ∃ b', autoRun ⟨n, LD d b :: rest⟩ out.2.1 = some ⟨n, LD out.1 b' :: rest⟩ ∧
      (out.1.state = Running → b' = true) ∧ out.1.id = d.id

/-! the enumerators are distinct (kept folded so that hypotheses such as `d.state = Running` stay usable) -/
@[simp] theorem closed_ne_await : (Closed = Await) = False := by decide
@[simp] theorem closed_ne_armed : (Closed = Armed) = False := by decide
@[simp] theorem closed_ne_running : (Closed = Running) = False := by decide
@[simp] theorem await_ne_closed : (Await = Closed) = False := by decide
@[simp] theorem await_ne_armed : (Await = Armed) = False := by decide
@[simp] theorem await_ne_running : (Await = Running) = False := by decide
@[simp] theorem armed_ne_closed : (Armed = Closed) = False := by decide
@[simp] theorem armed_ne_await : (Armed = Await) = False := by decide
@[simp] theorem armed_ne_running : (Armed = Running) = False := by decide
@[simp] theorem running_ne_closed : (Running = Closed) = False := by decide
@[simp] theorem running_ne_await : (Running = Await) = False := by decide
@[simp] theorem running_ne_armed : (Running = Armed) = False := by decide
@[simp] theorem ok_ne_err : (Ok = Err) = False := by decide
@[simp] theorem err_ne_ok : (Err = Ok) = False := by decide

/-- evaluate the automaton on a literal event list (hypotheses `… ∉ ids rest`, `d.kind = …`, `d.state = …` from the context) -/
macro "hal_simp" : tactic =>
  `(tactic| simp [*, autoRun, LD, step_rd, step_describe, step_call, callStep, step_wr, step_close] <;> try assumption)

/-! ## camera.c -/

theorem cameraStop_keeps (d : Dev) (q : Q) (hk : d.kind = .camera) : Keeps d (cameraStop d q) := by
  intro n rest b hni hb
  unfold cameraStop pop
  generalize q.headD 0 = r
  by_cases hr : d.state = Running
  · cases hb hr
    by_cases h0 : r = Ok
    · exact ⟨false, by hal_simp⟩
    · by_cases h1 : r = Err
      · exact ⟨false, by hal_simp⟩
      · exact ⟨true, by hal_simp⟩
  · exact ⟨b, by hal_simp⟩

/-- the error path of `camera_set` / `camera_get_frame`: after events `e0` that leave the object as it is, `camera_stop`, then Await is stored -/
theorem cameraStop_await_keeps (d : Dev) (q : Q) (hk : d.kind = .camera) (e0 : List Ev) (r : Nat) (h0 : Keeps d (d, e0, r, q)) :
    Keeps d ({ (cameraStop d q).1 with state := Await }, e0 ++ (cameraStop d q).2.1 ++ [Ev.wr d.id .state Await], r,
      (cameraStop d q).2.2.2) := by
  intro n rest b hni hb
  obtain ⟨b0, g0, hb0, _⟩ := h0 n rest b hni hb
  obtain ⟨b1, g1, _, g3⟩ := cameraStop_keeps d q hk n rest b0 hni hb0
  have p3 : autoRun ⟨n, LD (cameraStop d q).1 b1 :: rest⟩ [Ev.wr d.id .state Await] =
      some ⟨n, LD { (cameraStop d q).1 with state := Await } b1 :: rest⟩ := by
    hal_simp
  exact ⟨b1, autoRun_append_some (autoRun_append_some g0 g1) p3, by simp, g3⟩

theorem cameraSet_keeps (d : Dev) (arg : Bool) (q : Q) (hk : d.kind = .camera) : Keeps d (cameraSet d arg q) := by
  intro n rest b hni hb
  unfold cameraSet pop
  generalize q.headD 0 = r
  cases arg with
  | false => exact ⟨b, by hal_simp⟩
  | true =>
    by_cases h0 : r = Ok
    · by_cases hr : d.state = Running
      · cases hb hr; exact ⟨true, by hal_simp⟩
      · exact ⟨b, by hal_simp⟩
    · by_cases h1 : r = Err
      · simp only [h1, Bool.not_true, Bool.false_eq_true, if_false, if_true]
        exact cameraStop_await_keeps d q.tail hk _ Err (fun n rest b hni hb => ⟨b, by hal_simp⟩) n rest b hni hb
      · exact ⟨b, by hal_simp⟩

theorem cameraGetter_keeps (d : Dev) (f : Fn) (arg : Bool) (q : Q) (hk : d.kind = .camera)
    (hf : f ∈ [Fn.get, .getMeta, .getShape]) : Keeps d (cameraGetter d f arg q) := by
  intro n rest b hni hb
  unfold cameraGetter
  cases arg with
  | false => exact ⟨b, by hal_simp⟩
  | true =>
    simp only [List.mem_cons, List.not_mem_nil, or_false] at hf
    rcases hf with rfl | rfl | rfl <;> exact ⟨b, by hal_simp⟩

theorem cameraStart_keeps (d : Dev) (q : Q) (hk : d.kind = .camera) : Keeps d (cameraStart d q) := by
  intro n rest b hni hb
  unfold cameraStart pop
  generalize q.headD 0 = r
  by_cases h0 : r = Ok
  · exact ⟨true, by hal_simp⟩
  · by_cases h1 : r = Err <;> exact ⟨b, by hal_simp⟩

theorem cameraExecuteTrigger_keeps (d : Dev) (q : Q) (hk : d.kind = .camera) : Keeps d (cameraExecuteTrigger d q) := by
  intro n rest b hni hb
  unfold cameraExecuteTrigger
  by_cases hr : d.state = Running <;> exact ⟨b, by hal_simp⟩

theorem cameraGetFrame_keeps (d : Dev) (q : Q) (hk : d.kind = .camera) : Keeps d (cameraGetFrame d q) := by
  intro n rest b hni hb
  unfold cameraGetFrame pop
  generalize q.headD 0 = r
  by_cases hr : d.state = Running
  · cases hb hr
    by_cases h0 : r = Ok
    · exact ⟨true, by hal_simp⟩
    · simp only [hr, h0, ne_eq, not_true_eq_false, not_false_eq_true, if_false, if_true]
      exact cameraStop_await_keeps d q.tail hk _ r (fun n rest b hni hb => ⟨b, by cases hb hr; hal_simp⟩) n rest true hni hb
  · exact ⟨b, by hal_simp⟩

/-! ## storage.c -/

theorem storageStop_keeps (d : Dev) (q : Q) (hk : d.kind = .storage) : Keeps d (storageStop d q) := by
  intro n rest b hni hb
  unfold storageStop pop
  generalize q.headD 0 = r
  by_cases hr : d.state = Running
  · cases hb hr
    by_cases h0 : r = Armed ∨ r = Await <;> exact ⟨decide (r = Running), by hal_simp⟩
  · exact ⟨b, by hal_simp⟩

theorem storageSet_keeps (d : Dev) (arg : Bool) (q : Q) (hk : d.kind = .storage) : Keeps d (storageSet d arg q) := by
  intro n rest b hni hb
  unfold storageSet
  cases arg with
  | false => exact ⟨b, by hal_simp⟩
  | true => exact ⟨decide ((pop q).1 = Running), by hal_simp⟩

theorem storageVoid_keeps (d : Dev) (f : Fn) (q : Q) (hk : d.kind = .storage)
    (hf : f ∈ [Fn.get, .getMeta, .reserve]) : Keeps d (storageVoid d f q) := by
  intro n rest b hni hb
  unfold storageVoid
  simp only [List.mem_cons, List.not_mem_nil, or_false] at hf
  rcases hf with rfl | rfl | rfl <;> exact ⟨b, by hal_simp⟩

theorem storageStart_keeps (d : Dev) (q : Q) (hk : d.kind = .storage) : Keeps d (storageStart d q) := by
  intro n rest b hni hb
  unfold storageStart
  by_cases hr : d.state = Armed
  · exact ⟨decide ((pop q).1 = Running), by hal_simp⟩
  · exact ⟨b, by hal_simp⟩

theorem storageAppend_keeps (d : Dev) (cmp : Nat) (q : Q) (hk : d.kind = .storage) : Keeps d (storageAppend d cmp q) := by
  intro n rest b hni hb
  unfold storageAppend
  by_cases hr : d.state = Running
  · cases hb hr
    by_cases c0 : cmp = 0
    · exact ⟨true, by hal_simp⟩
    · by_cases c1 : cmp = 1
      · exact ⟨true, by hal_simp⟩
      · exact ⟨decide ((pop q).1 = Running), by hal_simp⟩
  · exact ⟨b, by hal_simp⟩

/-! ## close, open, validate -/

theorem cameraClose_auto (d : Dev) (q : Q) (n : Nat) (rest : List LiveDev) (b : Bool) (hni : d.id ∉ ids rest) :
    autoRun ⟨n, LD d b :: rest⟩ (cameraClose d q).1 = some ⟨n, rest⟩ := by
  unfold cameraClose
  hal_simp

theorem storageClose_auto (d : Dev) (q : Q) (n : Nat) (rest : List LiveDev) (b : Bool) (hk : d.kind = .storage)
    (hni : d.id ∉ ids rest) (hb : d.state = Running → b = true) :
    autoRun ⟨n, LD d b :: rest⟩ (storageClose d q).1 = some ⟨n, rest⟩ := by
  obtain ⟨b1, g1, _, g3⟩ := storageStop_keeps d q hk n rest b hni hb
  have p2 : autoRun ⟨n, LD (storageStop d q).1 b1 :: rest⟩
      ([Ev.wr d.id .state Closed] ++ (driverCloseDevice (storageStop d q).1 (storageStop d q).2.2.2).1) = some ⟨n, rest⟩ := by
    unfold driverCloseDevice
    hal_simp
  simpa [storageClose] using autoRun_append_some g1 p2

theorem vtable_auto (id : Nat) (k : Kind) (st : Nat) (b : Bool) (n : Nat) (rest : List LiveDev) (l : List Fn) :
    autoRun ⟨n, ⟨id, k, st, b⟩ :: rest⟩ (l.map fun f => Ev.rd id (.fn f)) = some ⟨n, ⟨id, k, st, b⟩ :: rest⟩ := by
  induction l with
  | nil => rfl
  | cons f t ih => simp [autoRun, step_rd, ih]

theorem driverOpenDevice_auto (nopen : Nat) (kind : Kind) (q : Q) (rest : List LiveDev) (hrest : nopen ∉ ids rest) :
    match driverOpenDevice nopen kind q with
    | (some d, n', e, _, _) =>
      d.id = nopen ∧ d.kind = kind ∧ n' = nopen + 1 ∧
        autoRun ⟨nopen, rest⟩ e = some ⟨n', LD d (decide (d.state = Running)) :: rest⟩
    | (none, n', e, _, _) => nopen ≤ n' ∧ autoRun ⟨nopen, rest⟩ e = some ⟨n', rest⟩ := by
  unfold driverOpenDevice
  simp only [pop]
  by_cases h0 : q.headD 0 = 0
  · simp only [h0, if_true]
    by_cases h1 : q.tail.tail.headD 0 = Ok
    · simp only [h1, if_true]
      simp [autoRun, step_open, LD, step_describe, step_wr hrest]
    · simp only [h1, if_false]
      exact ⟨Nat.le_succ _, by simp [autoRun, step_open, step_describe, step_close hrest]⟩
  · simp only [h0, if_false]
    by_cases h2 : q.headD 0 = 2 <;> simp only [h2, if_true, if_false] <;>
      exact ⟨Nat.le_refl _, by simp [autoRun, step_open_none]⟩

theorem storageValidate_auto (nopen : Nat) (q : Q) (rest : List LiveDev) (hrest : nopen ∉ ids rest) :
    nopen ≤ (storageValidate nopen q).1 ∧
      autoRun ⟨nopen, rest⟩ (storageValidate nopen q).2.1 = some ⟨(storageValidate nopen q).1, rest⟩ := by
  unfold storageValidate
  have h := driverOpenDevice_auto nopen .storage q rest hrest
  generalize driverOpenDevice nopen .storage q = out at h ⊢
  obtain ⟨_ | d, n', e, _, q'⟩ := out
  · exact h
  · obtain ⟨hid, hk, hn, hrun⟩ := h
    simp only [pop]
    generalize q'.headD 0 = r
    have p2 : autoRun ⟨n', LD d (decide (d.state = Running)) :: rest⟩
        ([Ev.rd d.id .identifier, Ev.wr d.id .identifier 0] ++
          [Ev.rd d.id (.fn .set), Ev.call d.id .set r, Ev.wr d.id .state r, Ev.rd d.id .state])
        = some ⟨n', LD { d with state := r } (decide (r = Running)) :: rest⟩ := by
      hal_simp
    have p3 := storageClose_auto { d with state := r } q'.tail n' rest (decide (r = Running)) hk (hid ▸ hrest) decide_eq_true
    exact ⟨by omega, by simpa using autoRun_append_some (autoRun_append_some hrun p2) p3⟩

/-! ## the invariant of `step` and `run` -/

/-- the automaton state that mirrors a HAL state: the devices created so far, of which only the
caller's handle is live -/
def mirror (s : HalState) (b : Bool) : Auto :=
  ⟨s.nopen, match s.dev with | none => [] | some d => [LD d b]⟩

theorem mem_ids_mirror {s : HalState} {b : Bool} {id : Nat} :
    id ∈ ids (mirror s b).live ↔ ∃ d, s.dev = some d ∧ d.id = id := by
  unfold mirror
  cases s.dev <;> simp [ids, LD, eq_comm]

/-- the handle is a device the driver created, and if it is Running the driver knows -/
def Good (s : HalState) (b : Bool) : Prop :=
  ∀ d, s.dev = some d → d.id < s.nopen ∧ (d.state = Running → b = true)

theorem onDev_inv (s : HalState) (d : Dev) (b : Bool) (out : Dev × List Ev × Nat × Q) (hs : s.dev = some d)
    (hg : Good s b) (hk : Keeps d out) :
    ∃ b', autoRun (mirror s b) (onDev s out).2.1 = some (mirror (onDev s out).1 b') ∧ Good (onDev s out).1 b' := by
  obtain ⟨h1, h2⟩ := hg d hs
  obtain ⟨b', g1, g2, g3⟩ := hk s.nopen [] b List.not_mem_nil h2
  refine ⟨b', by simpa only [mirror, hs, onDev] using g1, fun d' hd' => ?_⟩
  cases hd'
  exact ⟨g3 ▸ h1, g2⟩

/-- `camera_open` / `storage_open` after `driver_open_device`: the checks of the vtable slots `l` on a device that was handed out -/
def openWith (l : List Fn) : Option Dev × Nat × List Ev × Nat × Q → Option Dev × Nat × List Ev × Q
  | (some d, n, e, _, q) => (some d, n, e ++ l.map fun f => Ev.rd d.id (.fn f), q)
  | (none, n, e, _, q) => (none, n, e, q)

theorem open_inv (n : Nat) (kind : Kind) (l : List Fn) (q : Q) (out : Option Dev × Nat × List Ev × Q)
    (hout : out = openWith l (driverOpenDevice n kind q)) :
    ∃ b', autoRun ⟨n, []⟩ out.2.2.1 = some (mirror ⟨out.2.1, out.1⟩ b') ∧ Good ⟨out.2.1, out.1⟩ b' := by
  have h := driverOpenDevice_auto n kind q [] List.not_mem_nil
  generalize driverOpenDevice n kind q = r at h hout
  obtain ⟨_ | d, n', e, _, q'⟩ := r
  · subst hout
    exact ⟨false, h.2, fun d hd => nomatch hd⟩
  · subst hout
    obtain ⟨hid, _, hn, hrun⟩ := h
    refine ⟨decide (d.state = Running), autoRun_append_some hrun (vtable_auto d.id d.kind d.state _ n' [] l), fun d' hd' => ?_⟩
    cases hd'
    exact ⟨show d.id < n' by omega, decide_eq_true⟩

theorem step_inv (s : HalState) (c : Call) (q : Q) (b : Bool) (hg : Good s b) :
    ∃ b', autoRun (mirror s b) (step s c q).2.1 = some (mirror (step s c q).1 b') ∧ Good (step s c q).1 b' := by
  unfold step
  by_cases hwf : c.wf s = false
  · simp only [hwf, Bool.not_false, if_true]; exact ⟨b, rfl, hg⟩
  replace hwf : c.wf s = true := by simpa using hwf
  simp only [hwf, Bool.not_true, Bool.false_eq_true, if_false]
  -- storage_validate: a device of its own, whatever the handle is
  by_cases hv : c = .stoValidate
  · subst hv
    have hrest : s.nopen ∉ ids (mirror s b).live := fun hm => by
      obtain ⟨d, hd, hid⟩ := mem_ids_mirror.mp hm
      have := (hg d hd).1
      omega
    obtain ⟨h1, h2⟩ := storageValidate_auto s.nopen q (mirror s b).live hrest
    exact ⟨b, h2, fun d hd => ⟨Nat.lt_of_lt_of_le (hg d hd).1 h1, (hg d hd).2⟩⟩
  obtain ⟨n, dev⟩ := s
  cases dev with
  | none =>
    cases c
    case stoValidate => exact absurd rfl hv
    case camOpen => exact open_inv n .camera _ q _ rfl
    case stoOpen => exact open_inv n .storage _ q _ rfl
    all_goals exact ⟨b, rfl, hg⟩
  | some d =>
    -- `Call.wf` on a live handle evaluates to `!c.isOpen && c.kind == d.kind`
    have hk : d.kind = c.kind := by
      cases c <;> first | exact absurd rfl hv | cases hwf | exact (eq_of_beq hwf).symm
    -- a function that keeps the automaton in step with the device object keeps the invariant
    have on := fun out hout => onDev_inv ⟨n, some d⟩ d b out rfl hg hout
    cases c
    case stoValidate => exact absurd rfl hv
    case camOpen => cases hwf
    case stoOpen => cases hwf
    case camSet a => exact on _ (cameraSet_keeps d a q hk)
    case camGet a | camGetMeta a | camGetShape a => exact on _ (cameraGetter_keeps d _ a q hk (by decide))
    case camStart => exact on _ (cameraStart_keeps d q hk)
    case camStop => exact on _ (cameraStop_keeps d q hk)
    case camTrigger => exact on _ (cameraExecuteTrigger_keeps d q hk)
    case camGetFrame => exact on _ (cameraGetFrame_keeps d q hk)
    case camClose => exact ⟨b, cameraClose_auto d q n [] b List.not_mem_nil, fun _ hd' => nomatch hd'⟩
    case stoSet a => exact on _ (storageSet_keeps d a q hk)
    case stoGet | stoGetMeta | stoReserve => exact on _ (storageVoid_keeps d _ q hk (by decide))
    case stoStart => exact on _ (storageStart_keeps d q hk)
    case stoStop => exact on _ (storageStop_keeps d q hk)
    case stoAppend k => exact on _ (storageAppend_keeps d k q hk)
    case stoClose => exact ⟨b, storageClose_auto d q n [] b hk List.not_mem_nil (hg d rfl).2, fun _ hd' => nomatch hd'⟩

theorem run_inv (s : HalState) (h : History) (b : Bool) (hg : Good s b) :
    ∃ b', autoRun (mirror s b) (run s h).2 = some (mirror (run s h).1 b') ∧ Good (run s h).1 b' := by
  induction h generalizing s b with
  | nil => exact ⟨b, rfl, hg⟩
  | cons cq t ih =>
    obtain ⟨b1, h1, g1⟩ := step_inv s cq.1 cq.2 b hg
    obtain ⟨b2, h2, g2⟩ := ih _ b1 g1
    exact ⟨b2, autoRun_append_some h1 h2, g2⟩

/-- the log of a history from the initial state (no device, NULL handle) is accepted, and ends in the mirror of the final state -/
theorem run_init (h : History) : ∃ b', autoRun {} (run {} h).2 = some (mirror (run {} h).1 b') :=
  (run_inv {} h false fun _ hd => nomatch hd).imp fun _ h => h.1

end AcqVerif.Hal
