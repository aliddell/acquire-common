import AcqVerif.Hal.Model
/-!
# Facts about the protocol automaton itself (independent of the HAL model)

What acceptance of a log means in plain terms: a closed device is never touched again
(`dead_stays_dead`, `after_close`), and every device that was created and is no longer
live has a `drvClose` in the log (`closed_in_log`).
-/
namespace AcqVerif.Hal

def ids (l : List LiveDev) : List Nat := l.map (·.id)

/-- the device an event is about (for `drvOpen`: the device it creates) -/
def Ev.dev : Ev → Option Nat
  | .drvOpen _ none => none
  | .drvOpen _ (some (id, _, _)) => some id
  | .drvDescribe id _ => some id
  | .drvClose id _ => some id
  | .call id _ _ => some id
  | .rd id _ => some id
  | .wr id _ _ => some id

/-- all live devices have ordinals below the counter -/
def Bounded (a : Auto) : Prop := ∀ id ∈ ids a.live, id < a.n

theorem bounded_init : Bounded {} := fun _ hj => nomatch hj

theorem ids_updLive (l : List LiveDev) (x : LiveDev) : ids (updLive l x) = ids l := by
  simp only [ids, updLive, List.map_map]
  exact List.map_congr_left fun y _ => by by_cases h : y.id = x.id <;> simp [h]

theorem mem_ids_delLive (l : List LiveDev) (id j : Nat) : j ∈ ids (delLive l id) ↔ j ∈ ids l ∧ j ≠ id := by
  simp only [ids, delLive, List.mem_map, List.mem_filter, bne_iff_ne]
  exact ⟨fun ⟨x, ⟨hx, hne⟩, e⟩ => ⟨⟨x, hx, e⟩, e ▸ hne⟩, fun ⟨⟨x, hx, e⟩, hne⟩ => ⟨x, ⟨hx, e ▸ hne⟩, e⟩⟩

theorem findLive_isSome_mem {l : List LiveDev} {id : Nat} (h : (findLive l id).isSome) : id ∈ ids l := by
  obtain ⟨x, (hx : l.find? (fun y => y.id == id) = some x)⟩ := Option.isSome_iff_exists.mp h
  have hid : x.id = id := by simpa using List.find?_some hx
  exact hid ▸ List.mem_map_of_mem (List.mem_of_find?_eq_some hx)

theorem callStep_id {x x' : LiveDev} {f : Fn} {r : Nat} (h : callStep x f r = some x') : x'.id = x.id := by
  unfold callStep at h
  (repeat' split at h) <;> cases h <;> rfl

/-- what an accepted event does to the counter and the live set: it creates the next device, closes a live one,
    or is about a live device (or none) and leaves both as they are -/
theorem autoStep_cases {a a' : Auto} {e : Ev} (h : autoStep a e = some a') :
    (∃ k i, e = .drvOpen Ok (some (a.n, k, i)) ∧ a'.n = a.n + 1 ∧ ids a'.live = a.n :: ids a.live) ∨
    (∃ id r, e = .drvClose id r ∧ id ∈ ids a.live ∧ a' = { a with live := delLive a.live id }) ∨
    (a'.n = a.n ∧ ids a'.live = ids a.live ∧ ∀ id, e.dev = some id → id ∈ ids a.live) := by
  -- an event about the live device `j` that changes no ordinal
  have same : ∀ {l : List LiveDev} {j : Nat}, a' = { a with live := l } → ids l = ids a.live → j ∈ ids a.live →
      e.dev = some j → a'.n = a.n ∧ ids a'.live = ids a.live ∧ ∀ id, e.dev = some id → id ∈ ids a.live :=
    fun e1 e2 hj hd => ⟨by rw [e1], by rw [e1]; exact e2, fun id hid => by rw [hd] at hid; cases hid; exact hj⟩
  cases e with
  | drvOpen st d =>
    cases d with
    | none =>
      simp [autoStep] at h; subst h
      exact Or.inr (Or.inr ⟨rfl, rfl, by simp [Ev.dev]⟩)
    | some t =>
      obtain ⟨j, k, i⟩ := t
      simp only [autoStep] at h
      split at h
      · rename_i hc
        obtain ⟨rfl, rfl⟩ := hc
        simp at h; subst h
        exact Or.inl ⟨k, i, rfl, rfl, rfl⟩
      · simp at h
  | drvDescribe j _ | rd j _ =>
    simp only [autoStep] at h; split at h <;> simp at h
    rename_i hc
    exact Or.inr (Or.inr (same (l := a.live) h.symm rfl (findLive_isSome_mem hc) rfl))
  | drvClose j r =>
    simp only [autoStep] at h; split at h <;> simp at h
    rename_i hc
    exact Or.inr (Or.inl ⟨j, r, rfl, findLive_isSome_mem hc, h.symm⟩)
  | wr j f v =>
    simp only [autoStep] at h; split at h <;> simp at h
    rename_i x hc
    exact Or.inr (Or.inr (same h.symm (ids_updLive _ _) (findLive_isSome_mem (hc ▸ rfl)) rfl))
  | call j f r =>
    simp only [autoStep] at h; split at h
    · simp at h
    · rename_i x hc
      split at h <;> simp at h
      exact Or.inr (Or.inr (same h.symm (ids_updLive _ _) (findLive_isSome_mem (hc ▸ rfl)) rfl))

/-- an accepted event is about a live device or the one it creates -/
theorem autoStep_touch {a a' : Auto} {e : Ev} {id : Nat} (h : autoStep a e = some a') (hd : e.dev = some id) :
    id ∈ ids a.live ∨ id = a.n := by
  rcases autoStep_cases h with ⟨k, i, rfl, _⟩ | ⟨j, r, rfl, hm, _⟩ | ⟨_, _, hm⟩
  · cases hd; exact Or.inr rfl
  · cases hd; exact Or.inl hm
  · exact Or.inl (hm id hd)

/-- how one accepted event changes the counter and the live set -/
theorem autoStep_live {a a' : Auto} {e : Ev} (h : autoStep a e = some a') :
    a.n ≤ a'.n ∧
    (∀ j, j ∈ ids a'.live → j ∈ ids a.live ∨ (a.n ≤ j ∧ j < a'.n)) ∧
    (∀ j, j ∈ ids a.live → j ∈ ids a'.live ∨ ∃ r, e = .drvClose j r) ∧
    (∀ j, j < a'.n → j < a.n ∨ j ∈ ids a'.live) := by
  rcases autoStep_cases h with ⟨k, i, rfl, hn, hl⟩ | ⟨id, r, rfl, _, rfl⟩ | ⟨hn, hl, _⟩
  · rw [hn, hl]
    refine ⟨Nat.le_succ _, fun j hj => ?_, fun j hj => Or.inl (List.mem_cons_of_mem _ hj), fun j hj => ?_⟩
    · rcases List.mem_cons.mp hj with h1 | h1
      · right; omega
      · exact Or.inl h1
    · by_cases hjj : j = a.n
      · exact Or.inr (hjj ▸ List.mem_cons_self)
      · left; omega
  · simp only [mem_ids_delLive]
    refine ⟨Nat.le_refl _, fun j hj => Or.inl hj.1, fun j hj => ?_, fun j hj => Or.inl hj⟩
    by_cases hjj : j = id
    · exact Or.inr ⟨r, hjj ▸ rfl⟩
    · exact Or.inl ⟨hj, hjj⟩
  · rw [hn, hl]
    exact ⟨Nat.le_refl _, fun _ h => Or.inl h, fun _ h => Or.inl h, fun _ h => Or.inl h⟩

theorem autoStep_bounded {a a' : Auto} {e : Ev} (h : autoStep a e = some a') (hb : Bounded a) : Bounded a' := by
  obtain ⟨h1, h2, _, _⟩ := autoStep_live h
  intro j hj
  rcases h2 j hj with h3 | h3
  · exact Nat.lt_of_lt_of_le (hb j h3) h1
  · exact h3.2

theorem autoRun_cons {a : Auto} {e : Ev} {t : List Ev} {a' : Auto} (h : autoRun a (e :: t) = some a') :
    ∃ a1, autoStep a e = some a1 ∧ autoRun a1 t = some a' := by
  simp only [autoRun] at h
  split at h
  · simp at h
  · rename_i a1 h1; exact ⟨a1, h1, h⟩

theorem autoRun_append (a : Auto) (l1 l2 : List Ev) : autoRun a (l1 ++ l2) = (autoRun a l1).bind (autoRun · l2) := by
  induction l1 generalizing a with
  | nil => rfl
  | cons e t ih =>
    simp only [List.cons_append, autoRun]
    cases autoStep a e with
    | none => rfl
    | some a1 => exact ih a1

theorem autoRun_append_some {a a1 a2 : Auto} {l1 l2 : List Ev} (h1 : autoRun a l1 = some a1) (h2 : autoRun a1 l2 = some a2) :
    autoRun a (l1 ++ l2) = some a2 := by
  rw [autoRun_append, h1]
  exact h2

theorem autoRun_bounded {a a' : Auto} {l : List Ev} (h : autoRun a l = some a') (hb : Bounded a) : Bounded a' := by
  induction l generalizing a with
  | nil => cases h; exact hb
  | cons e t ih =>
    obtain ⟨a1, h1, h2⟩ := autoRun_cons h
    exact ih h2 (autoStep_bounded h1 hb)

/-- a device that has been created and is not live (i.e. was closed) is never touched again, and stays that way -/
theorem dead_stays_dead {a a' : Auto} {l : List Ev} {id : Nat} (h : autoRun a l = some a')
    (hn : id < a.n) (hd : id ∉ ids a.live) : (∀ e ∈ l, e.dev ≠ some id) ∧ id ∉ ids a'.live := by
  induction l generalizing a with
  | nil => cases h; exact ⟨by simp, hd⟩
  | cons e t ih =>
    obtain ⟨a1, h1, h2⟩ := autoRun_cons h
    obtain ⟨g1, g2, _, _⟩ := autoStep_live h1
    have hd1 : id ∉ ids a1.live := by
      intro hc
      rcases g2 id hc with h3 | h3
      · exact hd h3
      · omega
    obtain ⟨i1, i2⟩ := ih h2 (Nat.lt_of_lt_of_le hn g1) hd1
    refine ⟨fun e' he' => ?_, i2⟩
    rcases List.mem_cons.mp he' with h3 | h3
    · subst h3
      intro hc
      rcases autoStep_touch h1 hc with h4 | h4
      · exact hd h4
      · omega
    · exact i1 e' h3

/-- after an accepted `drvClose id`, `id` is dead -/
theorem close_kills {a a' : Auto} {id r : Nat} (hb : Bounded a) (h : autoStep a (Ev.drvClose id r) = some a') :
    id < a'.n ∧ id ∉ ids a'.live := by
  simp only [autoStep] at h
  split at h <;> cases h
  rename_i hc
  exact ⟨hb id (findLive_isSome_mem hc), by simp [mem_ids_delLive]⟩

/-- **nothing after close**: in a log the automaton accepts, no event after `drvClose id` is about `id`
(no call, no second close, no read, no write, and no new device under the same ordinal), and `id` is not live at the end. -/
theorem after_close {a a' : Auto} {pre post : List Ev} {id r : Nat} (hb : Bounded a)
    (h : autoRun a (pre ++ Ev.drvClose id r :: post) = some a') : (∀ e ∈ post, e.dev ≠ some id) ∧ id ∉ ids a'.live := by
  obtain ⟨a1, h1, h2⟩ := Option.bind_eq_some_iff.mp (autoRun_append a pre _ ▸ h)
  obtain ⟨a2, h3, h4⟩ := autoRun_cons h2
  obtain ⟨hn, hd⟩ := close_kills (autoRun_bounded h1 hb) h3
  exact dead_stays_dead h4 hn hd

/-- every device that has been created and is not live any more has a `drvClose` in the log -/
theorem closed_in_log {a a' : Auto} {l : List Ev} {id : Nat} (h : autoRun a l = some a')
    (hn : id < a'.n) (hd : id ∉ ids a'.live) : (id < a.n ∧ id ∉ ids a.live) ∨ ∃ r, Ev.drvClose id r ∈ l := by
  induction l generalizing a with
  | nil => cases h; exact Or.inl ⟨hn, hd⟩
  | cons e t ih =>
    obtain ⟨a1, h1, h2⟩ := autoRun_cons h
    rcases ih h2 with h3 | ⟨r, h3⟩
    · obtain ⟨_, _, g3, g4⟩ := autoStep_live h1
      by_cases hl : id ∈ ids a.live
      · rcases g3 id hl with h5 | ⟨r, h5⟩
        · exact absurd h5 h3.2
        · exact Or.inr ⟨r, by simp [h5]⟩
      · rcases g4 id h3.1 with h5 | h5
        · exact Or.inl ⟨h5, hl⟩
        · exact absurd h5 h3.2
    · exact Or.inr ⟨r, by simp [h3]⟩

/-- the counter only moves when the driver hands out the device with that ordinal -/
theorem opened_in_log {a a' : Auto} {l : List Ev} {id : Nat} (h : autoRun a l = some a') (hn : id < a'.n) :
    id < a.n ∨ ∃ k i, Ev.drvOpen Ok (some (id, k, i)) ∈ l := by
  induction l generalizing a with
  | nil => cases h; exact Or.inl hn
  | cons e t ih =>
    obtain ⟨a1, h1, h2⟩ := autoRun_cons h
    rcases ih h2 with h3 | ⟨k, i, h3⟩
    · rcases autoStep_cases h1 with ⟨k, i, rfl, hn1, _⟩ | ⟨_, _, _, _, rfl⟩ | ⟨hn1, _⟩
      · by_cases hlt : id < a.n
        · exact Or.inl hlt
        · have : id = a.n := by omega
          exact Or.inr ⟨k, i, by simp [this]⟩
      · exact Or.inl h3
      · exact Or.inl (hn1 ▸ h3)
    · exact Or.inr ⟨k, i, by simp [h3]⟩

end AcqVerif.Hal
