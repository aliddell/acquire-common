import AcqVerif.Simcam.Shape
/-!
# Arithmetic of the simulated camera's buffers (helper lemmas for C17)

* accepted binning factors, clamping;
* `alignUp` (the 32-byte rounding of `aligned_bytes_of_image`);
* every renderer's extent is bounded by `alignUp (w*h)` resp. the aligned image size —
  for *all* `w`, `h` (no evenness or size assumption);
* the binning cascade.
-/
namespace AcqVerif.Simcam

/-! ## binning -/

/-- the values `popcount_u8(b) == 1` lets through -/
def PowerOfTwoU8 (b : Nat) : Prop :=
  b = 1 ∨ b = 2 ∨ b = 4 ∨ b = 8 ∨ b = 16 ∨ b = 32 ∨ b = 64 ∨ b = 128

instance (b : Nat) : Decidable (PowerOfTwoU8 b) := by unfold PowerOfTwoU8; exact inferInstance

set_option maxRecDepth 100000 in
theorem popcount_eq_one : ∀ b, b < 256 → (popcountU8 b = 1 ↔ PowerOfTwoU8 b) := by decide

theorem pow2_div_pos {b : Nat} (h : PowerOfTwoU8 b) :
    1 ≤ K.maxImageWidth / b ∧ 1 ≤ K.maxImageHeight / b ∧
    b * (K.maxImageWidth / b) = K.maxImageWidth ∧ b * (K.maxImageHeight / b) = K.maxImageHeight ∧ 1 ≤ b := by
  rcases h with h | h | h | h | h | h | h | h <;> subst h <;> decide

/-! ## clamp -/

theorem clamp_bounds {v lo hi : Nat} (h : lo ≤ hi) : lo ≤ clamp v lo hi ∧ clamp v lo hi ≤ hi := by
  unfold clamp; split
  · omega
  · split <;> omega

theorem clamp_id {v lo hi : Nat} (h1 : lo ≤ v) (h2 : v ≤ hi) : clamp v lo hi = v := by
  unfold clamp; split
  · omega
  · split <;> omega

/-! ## alignUp -/

theorem alignUp_eq (n : Nat) : alignUp n = (n + 31) / 32 * 32 := by
  simp [alignUp, K.bufAlign]

theorem le_alignUp (n : Nat) : n ≤ alignUp n := by rw [alignUp_eq]; omega

theorem alignUp_mono {a b : Nat} (h : a ≤ b) : alignUp a ≤ alignUp b := by
  rw [alignUp_eq, alignUp_eq]; omega

theorem alignUp_mod (n : Nat) : alignUp n % 32 = 0 := by rw [alignUp_eq]; omega

theorem alignUp_lt (n : Nat) : alignUp n < n + 32 := by rw [alignUp_eq]; omega

/-! ## bytes_of_type -/

theorem bytesOfType_cases (t : Nat) :
    bytesOfType t = 0 ∨ bytesOfType t = 1 ∨ bytesOfType t = 2 ∨ bytesOfType t = 4 := by
  by_cases h : t < 16
  · exact (by decide : ∀ t, t < 16 →
      (bytesOfType t = 0 ∨ bytesOfType t = 1 ∨ bytesOfType t = 2 ∨ bytesOfType t = 4)) t h
  · left
    rw [bytesOfType, List.getD_eq_getElem?_getD, List.getElem?_eq_none (Nat.le_of_not_lt h)]
    rfl

/-- the element type `im_fill_pattern` dispatches to has the size `bytes_of_type` reports, and
its natural alignment divides what `realloc` guarantees -/
theorem patternElem_spec {t sz : Nat} (h : patternElem t = some sz) :
    sz = bytesOfType t ∧ sz ∣ K.mallocAlign ∧ 1 ≤ sz := by
  have table : ∀ e ∈ K.patternElemTable, e.2 = bytesOfType e.1 ∧ e.2 ∣ K.mallocAlign ∧ 1 ≤ e.2 := by decide
  obtain ⟨e, hf, rfl⟩ := Option.map_eq_some_iff.mp h
  have ht := List.find?_some hf
  simp only [decide_eq_true_eq] at ht
  exact ht ▸ table e (List.mem_of_find?_eq_some hf)

/-! ## im_fill_rand / im_fill_pattern -/

theorem imFillRandExtent_eq (s : Shape) : imFillRandExtent s = alignedBytesOfImage s := by
  unfold imFillRandExtent alignedBytesOfImage
  simp only [K.sizeofUInt32]
  have := alignUp_mod (bytesOfImage s)
  split <;> omega

theorem computeStrides_planes (s : Shape) :
    (computeStrides s).sPlanes = s.channels * s.width * s.height ∧
    (computeStrides s).sHeight = s.channels * s.width ∧
    (computeStrides s).sWidth = s.channels ∧ (computeStrides s).sChannels = 1 ∧
    (computeStrides s).width = s.width ∧ (computeStrides s).height = s.height ∧
    (computeStrides s).channels = s.channels ∧ (computeStrides s).planes = s.planes ∧
    (computeStrides s).type = s.type := by
  simp [computeStrides]

/-- a `W × H` one-channel shape as `compute_strides` leaves it -/
def planar (W H t : Nat) : Shape :=
  computeStrides { channels := 1, width := W, height := H, planes := 1, type := t }

theorem bytesOfImage_planar (W H t : Nat) : bytesOfImage (planar W H t) = W * H * bytesOfType t := by
  simp [planar, bytesOfImage, computeStrides]

theorem imFillPatternExtent_le (W H t : Nat) :
    imFillPatternExtent (planar W H t) ≤ bytesOfImage (planar W H t) := by
  rw [bytesOfImage_planar]
  simp only [imFillPatternExtent, planar, computeStrides, Nat.one_mul]
  split
  · exact Nat.zero_le _
  · rename_i sz hp
    rw [(patternElem_spec hp).1]
    split
    · exact Nat.zero_le _
    · rename_i hc
      refine Nat.mul_le_mul_right _ ?_
      obtain ⟨H', rfl⟩ : ∃ H', H = H' + 1 := ⟨H - 1, by omega⟩
      rw [Nat.mul_succ, Nat.add_sub_cancel]
      omega

/-! ## bin2 -/

theorem bin2Avx2Extent_le (w h : Nat) : bin2Avx2Extent w h ≤ alignUp (w * h) := by
  rw [alignUp_eq]
  show 32 * max
      (if h / 2 = 0 ∨ (w + 32 - 1) / 32 = 0 then 0 else (2 * (h / 2 - 1) + 1) * (w / 32) + (w + 32 - 1) / 32)
      (max (w * h / 2 / 32) (2 * (w * h / 4 / 32))) ≤ _
  split
  · omega
  · -- first loop, with h / 2 = m' + 1 and w = 32 d + r
    obtain ⟨m', hm'⟩ : ∃ m', h / 2 = m' + 1 := ⟨h / 2 - 1, by omega⟩
    have hw : w = 32 * (w / 32) + w % 32 := by omega
    have hceil : (w + 32 - 1) / 32 = w / 32 + (if w % 32 = 0 then 0 else 1) := by split <;> omega
    rw [hm', hceil, Nat.add_sub_cancel]
    generalize w / 32 = d at *
    generalize w % 32 = r at *
    have hge : w * (2 * (m' + 1)) ≤ w * h := Nat.mul_le_mul_left w (by omega)
    have hexp : w * (2 * (m' + 1)) = 64 * (d * m') + 64 * d + 2 * (r * m') + 2 * r := by
      rw [hw]; grind
    have hl : (2 * m' + 1) * d = 2 * (d * m') + d := by grind
    rw [hl]
    generalize d * m' = X at *
    generalize r * m' = Y at *
    generalize w * h = P at *
    split <;> omega

theorem bin2PlainExtent_le (w h : Nat) : bin2PlainExtent w h ≤ alignUp (w * h) := by
  rw [alignUp_eq]
  unfold bin2PlainExtent
  have h0 : w * h = 0 ↔ w = 0 ∨ h = 0 := Nat.mul_eq_zero
  have h1 : h = 1 → w * h = w := fun e => by rw [e, Nat.mul_one]
  have h2 : 2 ≤ h → 2 * w ≤ w * h := fun e => Nat.mul_comm 2 w ▸ Nat.mul_le_mul_left w e
  have hc : 1 ≤ h → (2 * ((h - 1) / 2) + 1) * w ≤ w * h := fun e =>
    Nat.mul_comm h w ▸ Nat.mul_le_mul_right w (by omega)
  generalize (2 * ((h - 1) / 2) + 1) * w = Q at *
  generalize w * h = P at *
  simp only [Nat.max_le]
  refine ⟨?_, ?_, ?_⟩ <;> split <;> omega

theorem bin2Extent_le (v : Variant) (w h : Nat) : bin2Extent v w h ≤ alignUp (w * h) := by
  cases v
  · exact bin2Avx2Extent_le w h
  · exact bin2PlainExtent_le w h

theorem bin2Align_dvd (v : Variant) : bin2Align v ∣ K.mallocAlign := by
  cases v <;> simp [bin2Align]

theorem binCascade_zero (v : Variant) (w h pass : Nat) : binCascade v 0 w h pass = [] := by
  rw [binCascade]; simp

theorem binCascade_pos (v : Variant) {b : Nat} (hb : b ≠ 0) (w h pass : Nat) :
    binCascade v b w h pass =
      ⟨.bin2 pass, .render, bin2Extent v w h, bin2Align v⟩ :: binCascade v (b / 2) (w / 2) (h / 2) (pass + 1) := by
  rw [binCascade]; simp [hb]

/-- every pass of the cascade stays within the aligned size of the image it started from -/
theorem binCascade_le (v : Variant) : ∀ (b w h pass : Nat) (a : Access), a ∈ binCascade v b w h pass →
    a.buf = .render ∧ a.extent ≤ alignUp (w * h) ∧ a.align ∣ K.mallocAlign := by
  intro b
  induction b using Nat.strongRecOn with
  | ind b ih =>
    intro w h pass a ha
    rw [binCascade] at ha
    split at ha
    · simp at ha
    · rename_i hb
      rcases List.mem_cons.mp ha with rfl | hrest
      · exact ⟨rfl, bin2Extent_le v w h, bin2Align_dvd v⟩
      · obtain ⟨h1, h2, h3⟩ := ih (b / 2) (by omega) (w / 2) (h / 2) (pass + 1) a hrest
        refine ⟨h1, Nat.le_trans h2 (alignUp_mono ?_), h3⟩
        exact Nat.mul_le_mul (Nat.div_le_self w 2) (Nat.div_le_self h 2)

end AcqVerif.Simcam
