import AcqVerif.Storage.RawAcq
/-!
# Short writes alone never make the raw device fail

A *benign* oracle lets every call succeed but may cut every `pwrite` short (to at least one
byte).  Under such an oracle `file_write` always reports success, `start` succeeds and the
device stays Running through any number of appends.  (This also shows that the hypothesis
"still Running after the appends" of `C14_contents` is satisfiable for every packet list.)
-/
namespace AcqVerif.Storage

def Benign (o : Nat → Outcome) : Prop := ∀ n, o n = .full ∨ ∃ k, 0 < k ∧ o n = .short k

theorem Benign.ne_fail {o : Nat → Outcome} (h : Benign o) (n : Nat) : o n ≠ .fail := by
  rcases h n with h | ⟨k, _, h⟩ <;> rw [h] <;> simp

/-! ## `file_write` and `file_create` under a benign oracle -/

/-- a benign `pwrite` to an open descriptor makes progress -/
theorem sysPwrite_benign {os : Os} {fd : Fd} (off : Nat) {d : Bytes} (hb : Benign os.oracle)
    (hfd : ∃ p, os.fds.lookup fd = some p) (hne : d ≠ []) :
    ∃ os' w, sysPwrite os fd off d = (os', some w) ∧ w ≠ 0 := by
  obtain ⟨p, hl⟩ := hfd
  have hlen := List.length_pos_iff.mpr hne
  unfold sysPwrite
  rcases hb os.calls with h | ⟨k, hk, h⟩ <;> simp only [hl, h, pwriteCount]
  · exact ⟨_, _, rfl, by omega⟩
  · exact ⟨_, _, rfl, by split <;> omega⟩

/-- so the retry budget is never touched -/
theorem fileWriteLoop_benign (os : Os) (fd off : Nat) (buf : Bytes) (r : Nat) (hb : Benign os.oracle)
    (hfd : ∃ p, os.fds.lookup fd = some p) (hr : r < 3) : (fileWriteLoop os fd off buf r).2 = true := by
  fun_induction fileWriteLoop os fd off buf r with
  | case1 os off buf r hc os' hp =>
    obtain ⟨_, _, e, _⟩ := sysPwrite_benign off hb hfd hc.1
    rw [hp] at e; cases e
  | case2 os off buf r hc os' w hp ih =>
    obtain ⟨_, _, e, hw⟩ := sysPwrite_benign off hb hfd hc.1
    rw [hp] at e; cases e
    have horc := (sysPwrite_keeps os fd off buf).1
    rw [hp] at horc
    simp only [dite_eq_ite, hw, if_false, Nat.add_zero] at ih ⊢
    exact ih (by rw [horc]; exact hb) (by rw [(sysPwrite_some hp).2.1]; exact hfd) hr
  | case3 os off buf r hc => simp [hr]

theorem fileWrite_benign (os : Os) (fd off : Nat) (buf : Bytes) (hb : Benign os.oracle)
    (hfd : ∃ p, os.fds.lookup fd = some p) : (fileWrite os fd off buf).2 = true := by
  rw [fileWrite_eq]
  exact fileWriteLoop_benign os fd off buf 0 hb hfd (by omega)

theorem fileCreate_benign (os : Os) (p : Path) (hb : Benign os.oracle) : ∃ os' fd, fileCreate os p = (os', some fd) := by
  unfold fileCreate
  split
  next os1 ho =>
    unfold sysOpen at ho
    simp [hb.ne_fail os.calls] at ho
  next os1 fd ho =>
    have horc := sysOpen_oracle os p
    rw [ho] at horc
    have hok : (sysFlock os1 fd).2 = true := by
      simp [sysFlock, Os.fdKeys, (sysOpen_some ho).2.1, (horc ▸ hb).ne_fail os1.calls]
    split
    next os2 hfl => exact ⟨_, _, rfl⟩
    next os2 hfl => rw [hfl] at hok; cases hok

theorem start_benign (s : Sys) (r : Raw) (hd : s.dev = .raw r) (hc : s.closed = false) (harm : r.state = .armed)
    (hb : Benign s.os.oracle) : (step s .start).1.dev.state = .running := by
  obtain ⟨os', fd, he⟩ := fileCreate_benign s.os (cstr r.uri) hb
  rw [step_start hc, storageStart_raw hd harm]
  simp [rawStart, he, Dev.state]

theorem append_benign (s : Sys) (p : Path) (acc : Bytes) (fs : List Frame) (h : RawAcq s p acc)
    (hb : Benign s.os.oracle) : RawAcq (step s (.append fs)).1 p (acc ++ packetBytes fs) := by
  rcases append_step s p acc fs h with h1 | ⟨_, fd, off, hfail, hq⟩
  · exact h1
  · rw [fileWrite_benign s.os fd off _ hb hq] at hfail
    cases hfail

theorem appends_benign (pkts : List (List Frame)) (s : Sys) (p : Path) (acc : Bytes) (r : Raw) (hd : s.dev = .raw r)
    (h : RawAcq s p acc) (hb : Benign s.os.oracle) :
    RawAcq (runFrom s (pkts.map .append)) p (acc ++ (pkts.map packetBytes).flatten) := by
  induction pkts generalizing s acc r with
  | nil => simpa [runFrom] using h
  | cons fs t ih =>
    simp only [List.map_cons, runFrom]
    obtain ⟨⟨r1, hd1⟩, horc, _⟩ := step_raw s (.append fs) r hd
    have := ih _ _ r1 hd1 (append_benign s p acc fs h hb) (horc ▸ hb)
    simpa [List.flatten_cons, List.append_assoc] using this

/-- under a benign oracle an acquisition on a fresh path is still Running after any appends -/
theorem running_of_benign (s : Sys) (r : Raw) (hd : s.dev = .raw r) (hc : s.closed = false) (harm : r.state = .armed)
    (hfresh : s.os.files (cstr r.uri) = none) (hb : Benign s.os.oracle) (pkts : List (List Frame)) :
    (runFrom s (.start :: pkts.map .append)).dev.state = .running := by
  obtain ⟨⟨r1, hd1⟩, horc, _⟩ := step_raw s .start r hd
  have h0 : RawAcq (step s .start).1 (cstr r.uri) [] := (start_fresh s r hd hc harm hfresh).resolve_right
    fun ⟨r', hd', hs'⟩ => hs' (by simpa [hd', Dev.state] using start_benign s r hd hc harm hb)
  obtain ⟨_, r2, hd2, hst2, _⟩ := appends_benign pkts _ _ [] r1 hd1 h0 (horc ▸ hb)
  rw [runFrom, hd2]
  exact hst2

end AcqVerif.Storage
