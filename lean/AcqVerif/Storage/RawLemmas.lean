import AcqVerif.Storage.FileWriteLemmas
import AcqVerif.Storage.DevSpec
/-!
# Lemmas about the raw device behind the HAL (for C14)
-/
namespace AcqVerif.Storage

/-! ## C strings and the URI -/

theorem cstr_append_zero (u : Bytes) (h : ∀ b ∈ u, b ≠ 0) : cstr (u ++ [0]) = u := by
  rw [cstr, List.takeWhile_append_of_pos (by simpa using h)]
  simp

/-- the URI without an initial `file://` -/
def stripScheme (u : Bytes) : Bytes := if filePrefix <+: u then u.drop 7 else u

theorem copyString_terminated (v : Bytes) : copyString (v ++ [0]) = v ++ [0] := by
  simp [copyString]

theorem uriOffset_spec (u : Bytes) (hu : ∀ b ∈ u, b ≠ 0) :
    uriOffset (u ++ [0]) = if filePrefix <+: u then 7 else 0 := by
  have h : (u.length ≥ 7 ∧ (u ++ [0]).take 7 = filePrefix) ↔ filePrefix <+: u := by
    refine ⟨fun ⟨hl, ht⟩ => ?_, fun ⟨t, ht⟩ => ?_⟩
    · rw [← ht, List.take_append_of_le_length hl]
      exact List.take_prefix 7 u
    · subst ht
      simp [filePrefix]
  simp only [uriOffset, cstr_append_zero u hu, h]

theorem drop_uri (u : Bytes) (hu : ∀ b ∈ u, b ≠ 0) :
    (u ++ [0]).drop (uriOffset (u ++ [0])) = stripScheme u ++ [0] := by
  rw [uriOffset_spec u hu, stripScheme]
  split
  · rename_i h
    obtain ⟨t, rfl⟩ := h
    simp [filePrefix]
  · simp

theorem stripScheme_nonzero (u : Bytes) (hu : ∀ b ∈ u, b ≠ 0) : ∀ b ∈ stripScheme u, b ≠ 0 := by
  unfold stripScheme
  split
  · intro b hb; exact hu b (List.mem_of_mem_drop hb)
  · exact hu

/-- `raw_set` on a NUL-terminated URI: the path probed and the URI stored are the URI minus its scheme -/
theorem rawSet_terminated (os : Os) (r : Raw) (u : Bytes) (hu : ∀ b ∈ u, b ≠ 0) :
    rawSet os r (u ++ [0]) =
      match fileIsWritable os (stripScheme u) with
      | (os, false) => (os, r, .awaiting)
      | (os, true) => (os, { r with uri := stripScheme u ++ [0] }, .armed) := by
  have hdrop := drop_uri u hu
  unfold rawSet
  simp only [show (u ++ [0]).length ≠ 0 by simp, if_false, hdrop, cstr_append_zero _ (stripScheme_nonzero u hu),
    copyString_terminated]
  rcases fileIsWritable os (stripScheme u) with ⟨os1, _ | _⟩
  · rfl
  · simp only
    split
    · rfl
    · rename_i h0
      -- no scheme: the whole URI is what was dropped to
      rw [Decidable.not_not.mp h0, List.drop_zero] at hdrop
      rw [hdrop]

/-! ## what no call changes: the device kind and the fault script -/

theorem sysOpen_oracle (os : Os) (p : Path) : (sysOpen os p).1.oracle = os.oracle := by
  unfold sysOpen; simp only; split <;> rfl
theorem sysFlock_oracle (os : Os) (fd : Fd) : (sysFlock os fd).1.oracle = os.oracle := rfl
theorem sysClose_oracle (os : Os) (fd : Fd) : (sysClose os fd).1.oracle = os.oracle := rfl
theorem sysUnlink_oracle (os : Os) (p : Path) : (sysUnlink os p).oracle = os.oracle := rfl

theorem fileCreate_oracle (os : Os) (p : Path) : (fileCreate os p).1.oracle = os.oracle := by
  unfold fileCreate
  have h1 := sysOpen_oracle os p
  split
  next os1 ho => rwa [ho] at h1
  next os1 fd ho =>
    rw [ho] at h1
    have h2 := sysFlock_oracle os1 fd
    split <;> rename_i hf <;> rw [hf] at h2 <;> exact h2.trans h1

theorem fileIsWritable_oracle (os : Os) (p : Path) : (fileIsWritable os p).1.oracle = os.oracle := by
  unfold fileIsWritable
  split
  · rfl
  · have h1 := sysOpen_oracle os p
    split <;> rename_i ho <;> rw [ho] at h1 <;> exact h1

theorem rawSet_oracle (os : Os) (r : Raw) (uri : Bytes) : (rawSet os r uri).1.oracle = os.oracle := by
  unfold rawSet
  split
  · rfl
  · have := fileIsWritable_oracle os (cstr (uri.drop (uriOffset uri)))
    simp only
    split <;> rename_i hw <;> rw [hw] at this <;> exact this

theorem rawStart_oracle (os : Os) (r : Raw) : (rawStart os r).1.oracle = os.oracle := by
  rw [rawStart_os]
  exact fileCreate_oracle os (cstr r.uri)

/-- `raw_stop` touches neither the files nor the fault script -/
theorem rawStop_keeps (os : Os) (r : Raw) : (rawStop os r).1.files = os.files ∧ (rawStop os r).1.oracle = os.oracle := by
  unfold rawStop
  split <;> exact ⟨rfl, rfl⟩

theorem rawAppend_oracle (os : Os) (r : Raw) (pkt : Bytes) : (rawAppend os r pkt).1.oracle = os.oracle := by
  unfold rawAppend
  have := fileWrite_oracle os r.fid r.offset pkt
  split <;> rename_i os1 hw <;> rw [hw] at this
  · exact this
  · exact (rawStop_keeps os1 r).2.trans this

def Dev.isRaw : Dev → Bool
  | .raw _ => true
  | _ => false

theorem storageStop_raw (s : Sys) (r : Raw) (h : s.dev = .raw r) :
    let s' := (storageStop s).1
    (∃ r', s'.dev = .raw r') ∧ s'.os.files = s.os.files ∧ s'.os.oracle = s.os.oracle := by
  unfold storageStop
  split
  · simp only [h, Dev.stop]
    exact ⟨⟨_, rfl⟩, rawStop_keeps s.os r⟩
  · exact ⟨⟨r, h⟩, rfl, rfl⟩

/-- whatever is called on a raw device, it stays a raw device and the fault script stays what it
    was; stopping and closing also leave the files alone -/
theorem step_raw (s : Sys) (op : Op) (r : Raw) (h : s.dev = .raw r) :
    let s' := (step s op).1
    (∃ r', s'.dev = .raw r') ∧ s'.os.oracle = s.os.oracle ∧ (op = .stop ∨ op = .close → s'.os.files = s.os.files) := by
  unfold step
  split
  · exact ⟨⟨r, h⟩, rfl, fun _ => rfl⟩
  · cases op with
    | set uri md =>
      simp only [storageSet, h, Dev.set]
      exact ⟨⟨_, rfl⟩, rawSet_oracle s.os r uri, nofun⟩
    | start =>
      simp only [storageStart]
      split
      · exact ⟨⟨r, h⟩, rfl, nofun⟩
      · simp only [h, Dev.start]
        exact ⟨⟨_, rfl⟩, rawStart_oracle s.os r, nofun⟩
    | append fs =>
      simp only [storageAppend]
      split
      · exact ⟨⟨r, h⟩, rfl, nofun⟩
      · split
        · exact ⟨⟨r, h⟩, rfl, nofun⟩
        · simp only [h, Dev.append]
          exact ⟨⟨_, rfl⟩, rawAppend_oracle s.os r (packetBytes fs), nofun⟩
    | stop =>
      obtain ⟨hr, hf, ho⟩ := storageStop_raw s r h
      exact ⟨hr, ho, fun _ => hf⟩
    | close =>
      obtain ⟨⟨r1, h1⟩, hf, ho⟩ := storageStop_raw s r h
      have h2 := rawStop_keeps (storageStop s).1.os r1
      simp only [storageClose, h1, Dev.destroy, rawDestroy]
      exact ⟨⟨_, rfl⟩, h2.2.trans ho, fun _ => h2.1.trans hf⟩

theorem runFrom_raw (s : Sys) (ops : List Op) (r : Raw) (h : s.dev = .raw r) :
    (∃ r', (runFrom s ops).dev = .raw r') ∧ (runFrom s ops).os.oracle = s.os.oracle :=
  runFrom_inv (P := fun s' => (∃ r', s'.dev = .raw r') ∧ s'.os.oracle = s.os.oracle)
    (fun s' op _ ⟨⟨r', h'⟩, ho⟩ => let ⟨hr, ho', _⟩ := step_raw s' op r' h'; ⟨hr, ho'.trans ho⟩) ⟨⟨r, h⟩, rfl⟩

/-! ## `storage_start` on a raw device -/

theorem storageStart_raw {s : Sys} {r : Raw} (hd : s.dev = .raw r) (harm : r.state = .armed) :
    storageStart s = (⟨(rawStart s.os r).1, .raw { (rawStart s.os r).2.1 with state := (rawStart s.os r).2.2 }, s.closed⟩,
      if (rawStart s.os r).2.2 = .running then .ok else .err) := by
  simp [storageStart, hd, Dev.state, harm, Dev.start, Dev.setState]

end AcqVerif.Storage
