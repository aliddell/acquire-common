import AcqVerif.Storage.DevSpec
/-!
# Every HAL call keeps `DevInv`, the invariant that ties each device's own idea of "my file
is open" to the descriptor table (for C16)

First for the vtable (`Dev.*_ok`: the device function, then `Storage::state := ` what it
returned), then for `storage.c`, which only adds its guards.
-/
namespace AcqVerif.Storage

def Inv (s : Sys) : Prop := DevInv s.os s.dev ∧ (s.closed = true → s.os.fdKeys = [])

/-- what one HAL call establishes -/
def StepOk (s s' : Sys) : Prop := Inv s' ∧ Reach s.os s'.os

theorem StepOk.same (s : Sys) (h : Inv s) : StepOk s s := ⟨h, .refl _⟩

theorem StepOk.of_dev {s : Sys} {os' : Os} {d' : Dev} (hc : s.closed = false)
    (ht : Reach s.os os') (hd : DevInv os' d') : StepOk s { s with os := os', dev := d' } :=
  ⟨⟨hd, fun h => by cases hc.symm.trans h⟩, ht⟩

theorem Dev.state_setState (d : Dev) (st : DeviceState) : (d.setState st).state = st := by
  cases d <;> rfl

/-! ## the vtable -/

theorem Dev.set_ok (os : Os) (d : Dev) (uri md : Bytes) (hd : DevInv os d) (hi : d.state ≠ .running) :
    let a := d.set os uri md
    ∃ seg, Tr os a.1 seg ∧ NoIo seg ∧ a.2.2 ≠ .running ∧ DevInv a.1 (a.2.1.setState a.2.2) := by
  have hk := hd.idle hi
  cases d with
  | raw r =>
    obtain ⟨seg, ht, hf, hio, ho, hnr⟩ := rawSet_spec os r uri
    refine ⟨seg, ht, hio, hnr, ?_⟩
    simp [Dev.set, DevInv, Dev.setState, ho, raw_closed_of_idle hd.2 hi, (Os.fdKeys_eq hf).trans hk, hnr]
  | tiff t =>
    obtain ⟨seg, ht, hf, hio, _, hnr⟩ := tiffSet_spec os t uri uri.length md
    refine ⟨seg, ht, hio, hnr, ?_⟩
    simp [Dev.set, DevInv, Dev.setState, (Os.fdKeys_eq hf).trans hk, hnr]
  | sxs x =>
    obtain ⟨hos, htiff, hnr⟩ := sxsSet_spec os x uri md
    have hti : x.tiff.state ≠ .running := mt hd.2.mpr hi
    refine ⟨[], by simpa [Dev.set, hos] using Tr.refl os, NoIo.nil, hnr, ?_⟩
    simp [Dev.set, DevInv, Dev.setState, hos, htiff, hti, hk, hnr]
  | trash t => exact ⟨[], Tr.refl os, NoIo.nil, by simp [Dev.set], hd⟩

theorem Dev.start_ok (os : Os) (d : Dev) (hd : DevInv os d) (hi : d.state ≠ .running) :
    let a := d.start os
    Reach os a.1 ∧ DevInv a.1 (a.2.1.setState a.2.2) := by
  have hk := hd.idle hi
  cases d with
  | raw r =>
    have hcl := raw_closed_of_idle hd.2 hi
    rcases rawStart_spec os r with ⟨os', he, ht, hf⟩ | ⟨os', fd, he, ht, hf, _⟩
    · exact ⟨by simpa [Dev.start, he] using ht,
        by simp [Dev.start, he, DevInv, Dev.setState, hcl, (Os.fdKeys_eq hf).trans hk]⟩
    · exact ⟨by simpa [Dev.start, he] using ht,
        by simp [Dev.start, he, DevInv, Dev.setState, Os.fdKeys_cons hf, hk]⟩
  | tiff t =>
    obtain ⟨ht, _, hd'⟩ := tiffStart_spec os t hk
    exact ⟨ht, hd'⟩
  | sxs x => exact sxsStart_spec os x hk (mt hd.2.mpr hi)
  | trash t => exact ⟨.refl os, hd⟩

theorem Dev.append_ok (os : Os) (d : Dev) (fs : List Frame) (hd : DevInv os d) (hr : d.state = .running) :
    let a := d.append os fs
    Reach os a.1 ∧ DevInv a.1 (a.2.1.setState a.2.2) := by
  cases d with
  | raw r => exact rawAppend_spec os r (packetBytes fs) hd hr
  | tiff t =>
    obtain ⟨ht, hd', _⟩ := tiffAppend_spec os t (fs.map Frame.io) hd hr
    exact ⟨ht, hd'⟩
  | sxs x => exact sxsAppend_spec os x (fs.map Frame.io) hd hr
  | trash t => exact ⟨.refl os, hd⟩

theorem Dev.stop_ok (os : Os) (d : Dev) (hd : DevInv os d) :
    let a := d.stop os
    Reach os a.1 ∧ DevInv a.1 (a.2.1.setState a.2.2) := by
  cases d with
  | raw r =>
    obtain ⟨ht, hk1, ho⟩ := rawStop_spec os r hd.1
    exact ⟨ht, by simp [Dev.stop, DevInv, Dev.setState, rawStop_state, ho, hk1]⟩
  | tiff t =>
    obtain ⟨ht, hk1, _⟩ := Tiff.stop_spec os t hd
    exact ⟨ht, by simp [Dev.stop, tiffStop_eq, DevInv, Dev.setState, hk1]⟩
  | sxs x =>
    obtain ⟨ht, hk1, hns⟩ := sxsStop_spec os x hd.1
    exact ⟨ht, by simp [Dev.stop, DevInv, Dev.setState, sxsStop_state, hk1, hns]⟩
  | trash t => exact ⟨.refl os, hd⟩

theorem Dev.destroy_ok (os : Os) (d : Dev) (hd : DevInv os d) :
    let a := d.destroy os
    Reach os a.1 ∧ a.1.fdKeys = [] ∧ DevInv a.1 (a.2.setState .closed) := by
  cases d with
  | raw r =>
    obtain ⟨ht, hk1, ho⟩ := rawStop_spec os r hd.1
    exact ⟨ht, hk1, by simp [Dev.destroy, rawDestroy, DevInv, Dev.setState, ho, hk1]⟩
  | tiff t =>
    obtain ⟨ht, hk1, _⟩ := tiffDestroy_spec os t hd
    exact ⟨ht, hk1, by simp [Dev.destroy, DevInv, Dev.setState, hk1]⟩
  | sxs x =>
    obtain ⟨ht, hk1, hns⟩ := sxsDestroy_spec os x hd.1
    exact ⟨ht, hk1, by simp [Dev.destroy, DevInv, Dev.setState, hk1, hns]⟩
  | trash t => exact ⟨.refl _, hd, hd⟩

/-- a device that is not running holds no descriptor, and destroying it makes no system call -/
theorem Dev.destroy_idle (os : Os) (d : Dev) (hd : DevInv os d) (hi : d.state ≠ .running) : (d.destroy os).1 = os := by
  cases d with
  | raw r => simp [Dev.destroy, rawDestroy, rawStop_closed os r (raw_closed_of_idle hd.2 hi)]
  | tiff t => simp [Dev.destroy, tiffDestroy, tiffStop_eq, Tiff.stop_idle os t hi]
  | sxs x =>
    have hti : x.tiff.state ≠ .running := mt hd.2.mpr hi
    simp [Dev.destroy, sxsDestroy, sxsStop_eq, tiffDestroy, tiffStop_eq, Tiff.stop_idle os x.tiff hti]
  | trash t => rfl

/-! ## `storage.c` -/

theorem set_ok (s : Sys) (uri md : Bytes) (h : Inv s) (hc : s.closed = false) (hi : s.dev.state ≠ .running) :
    let s' := (storageSet s uri md).1
    StepOk s s' ∧ s'.dev.state ≠ .running ∧ ∃ seg, s'.os.log = s.os.log ++ seg ∧ NoIo seg := by
  obtain ⟨seg, ht, hio, hnr, hd⟩ := Dev.set_ok s.os s.dev uri md h.1 hi
  exact ⟨.of_dev hc ht.reach hd, by rw [storageSet, Dev.state_setState]; exact hnr, seg, ht.1, hio⟩

theorem start_ok (s : Sys) (h : Inv s) (hc : s.closed = false) : StepOk s (storageStart s).1 := by
  unfold storageStart
  split
  · exact .same s h
  · rename_i harm
    obtain ⟨ht, hd⟩ := Dev.start_ok s.os s.dev h.1 (by rw [Decidable.not_not.mp harm]; simp)
    exact .of_dev hc ht hd

theorem append_ok (s : Sys) (fs : List Frame) (h : Inv s) (hc : s.closed = false) :
    StepOk s (storageAppend s fs).1 := by
  unfold storageAppend
  split
  · exact .same s h
  · rename_i hrun
    split
    · exact .same s h
    · obtain ⟨ht, hd⟩ := Dev.append_ok s.os s.dev fs h.1 (Decidable.not_not.mp hrun)
      exact .of_dev hc ht hd

theorem stop_ok (s : Sys) (h : Inv s) (hc : s.closed = false) : StepOk s (storageStop s).1 := by
  unfold storageStop
  split
  · obtain ⟨ht, hd⟩ := Dev.stop_ok s.os s.dev h.1
    exact .of_dev hc ht hd
  · exact .same s h

theorem close_ok (s : Sys) (h : Inv s) (hc : s.closed = false) : StepOk s (storageClose s) := by
  unfold storageClose
  obtain ⟨hinv1, ht1⟩ := stop_ok s h hc
  obtain ⟨ht2, hk2, hd2⟩ := Dev.destroy_ok (storageStop s).1.os (storageStop s).1.dev hinv1.1
  exact ⟨⟨hd2, fun _ => hk2⟩, ht1.trans ht2⟩

theorem Op.wf_open {s : Sys} {op : Op} (h : ¬(!op.wf s) = true) : s.closed = false := by
  cases op <;> cases hc : s.closed <;> simp [Op.wf, hc] at h ⊢

/-- every HAL call keeps the invariant and is a disciplined transition of the OS -/
theorem step_ok (s : Sys) (op : Op) (h : Inv s) : StepOk s (step s op).1 := by
  unfold step
  split
  · exact .same s h
  · rename_i hwf
    have hc := Op.wf_open hwf
    cases op with
    | set uri md => exact (set_ok s uri md h hc (by intro hr; simp [Op.wf, hc, hr] at hwf)).1
    | start => exact start_ok s h hc
    | append fs => exact append_ok s fs h hc
    | stop => exact stop_ok s h hc
    | close => exact close_ok s h hc

end AcqVerif.Storage
