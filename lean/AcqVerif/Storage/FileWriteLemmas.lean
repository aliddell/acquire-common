import AcqVerif.Storage.SysSpec
/-!
# `file_write` and file contents: whatever the short-write pattern, the file ends up
with a prefix of the buffer written at `offset` — the whole buffer if success is reported.
-/
namespace AcqVerif.Storage

theorem setFile_same (files : Path → Option Bytes) (p : Path) (b : Bytes) : setFile files p b p = some b := by
  simp [setFile]

theorem setFile_other (files : Path → Option Bytes) (p q : Path) (b : Bytes) (h : q ≠ p) :
    setFile files p b q = files q := by
  simp [setFile, h]

theorem setFile_setFile (files : Path → Option Bytes) (p : Path) (a b : Bytes) :
    setFile (setFile files p a) p b = setFile files p b := by
  funext q; simp only [setFile]; split <;> rfl

/-- the file-system after `file_write` wrote the first `k` bytes of `buf` at `off` into `p` -/
def wrote (files : Path → Option Bytes) (p : Path) (off : Nat) (buf : Bytes) (k : Nat) : Path → Option Bytes :=
  if k = 0 then files else setFile files p (writeAt ((files p).getD []) off (buf.take k))

/-- writing `w` bytes and then `k` more right behind them is writing `w + k` bytes -/
theorem wrote_wrote (files : Path → Option Bytes) (p : Path) (off : Nat) (buf : Bytes) (w k : Nat) (hw : w ≤ buf.length) :
    wrote (wrote files p off buf w) p (off + w) (buf.drop w) k = wrote files p off buf (w + k) := by
  by_cases hw0 : w = 0
  · simp [wrote, hw0]
  by_cases hk0 : k = 0
  · simp [wrote, hk0]
  have := writeAt_append ((files p).getD []) off (buf.take w) ((buf.drop w).take k)
  rw [List.length_take_of_le hw, ← List.take_add] at this
  simp [wrote, hw0, hk0, setFile_same, setFile_setFile, this]

theorem fileWriteLoop_files (os : Os) (fd off : Nat) (buf : Bytes) (r : Nat) (p : Path)
    (hp : os.fds.lookup fd = some p) :
    let a := fileWriteLoop os fd off buf r
    ∃ k, k ≤ buf.length ∧ (a.2 = true → k = buf.length) ∧ a.1.files = wrote os.files p off buf k := by
  fun_induction fileWriteLoop os fd off buf r with
  | case1 os off buf r hc os' hpw =>
    obtain ⟨_, _, hf⟩ := sysPwrite_none hpw
    exact ⟨0, by omega, by simp, by simp [wrote, hf]⟩
  | case2 os off buf r hc os' w hpw ih =>
    obtain ⟨_, hfds, hw, p', hp', hfiles⟩ := sysPwrite_some hpw
    obtain rfl : p = p' := Option.some.inj (hp.symm.trans hp')
    simp only [dite_eq_ite] at ih
    obtain ⟨k, hk, hok, hfl⟩ := ih (by rw [hfds]; exact hp)
    simp only [List.length_drop] at hk hok
    refine ⟨w + k, by omega, fun h => by have := hok h; omega, ?_⟩
    rw [hfl, ← wrote_wrote _ _ _ _ _ _ hw]
    exact congrArg (wrote · p (off + w) (buf.drop w) k) hfiles
  | case3 os off buf r hc =>
    refine ⟨0, by omega, fun h => ?_, by simp [wrote]⟩
    have hb : buf = [] := Decidable.byContradiction fun hb => hc ⟨hb, by simpa using h⟩
    simp [hb]

theorem fileWrite_files (os : Os) (fd off : Nat) (buf : Bytes) (p : Path) (hp : os.fds.lookup fd = some p) :
    let a := fileWrite os fd off buf
    ∃ k, k ≤ buf.length ∧ (a.2 = true → k = buf.length) ∧ a.1.files = wrote os.files p off buf k := by
  rw [fileWrite_eq]
  exact fileWriteLoop_files os fd off buf 0 p hp

theorem fileWrite_content (os : Os) (fd off : Nat) (buf : Bytes) (p : Path) (hp : os.fds.lookup fd = some p)
    (hok : (fileWrite os fd off buf).2 = true) (hne : buf ≠ []) :
    (fileWrite os fd off buf).1.content p = writeAt (os.content p) off buf := by
  obtain ⟨k, _, hk, hfiles⟩ := fileWrite_files os fd off buf p hp
  have hlen : buf.length ≠ 0 := fun h0 => hne (List.eq_nil_of_length_eq_zero h0)
  simp only [Os.content, hfiles, wrote, hk hok, hlen, if_false, setFile_same, Option.getD_some, List.take_length]

end AcqVerif.Storage
