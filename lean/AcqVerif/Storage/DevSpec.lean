import AcqVerif.Storage.Tr
import AcqVerif.Storage.Hal
/-!
# What each device function does to the OS (raw, tiff, tiff-json)

Two facts per function.  Called on a device whose descriptor is where `DevInv` says, it makes
disciplined calls only (`Reach`) and `DevInv` holds again once `Storage::state` is what it returned.
Called in any state at all, an append that still returns Running has seen no failed write
(`Reported`).
-/
namespace AcqVerif.Storage

theorem runFrom_append (s : Sys) (a b : List Op) : runFrom s (a ++ b) = runFrom (runFrom s a) b := by
  induction a generalizing s with
  | nil => rfl
  | cons op ops ih => simp [runFrom, ih]

/-- what every call of a history preserves holds at its end -/
theorem runFrom_inv {P : Sys → Prop} {ops : List Op} (hstep : ∀ s, ∀ op ∈ ops, P s → P (step s op).1) {s : Sys}
    (h : P s) : P (runFrom s ops) := by
  induction ops generalizing s with
  | nil => exact h
  | cons op ops ih => exact ih (fun s o ho => hstep s o (by simp [ho])) (hstep s op (by simp) h)

/-! ## on an open device `step` is the HAL function -/

theorem step_start {s : Sys} (hc : s.closed = false) : step s .start = storageStart s := by
  simp [step, Op.wf, hc]

theorem step_append {s : Sys} (hc : s.closed = false) (fs : List Frame) : step s (.append fs) = storageAppend s fs := by
  simp [step, Op.wf, hc]

/-! ## what an append reports -/

/-- the log has grown from `os` to `os'`, and if the state returned is Running then no `pwrite` in
    between failed and no `file_write` reported failure -/
def Reported (os os' : Os) (st : DeviceState) : Prop :=
  ∃ seg, os'.log = os.log ++ seg ∧ (st = .running → NoFail seg ∧ os'.wfails = os.wfails)

theorem Wrote.reported {fd : Fd} {os os' : Os} (h : Wrote fd os os' true) (st : DeviceState) : Reported os os' st :=
  let ⟨seg, hl, _, _, hk⟩ := h; ⟨seg, hl, fun _ => hk rfl⟩

theorem Reported.log {os os' : Os} {st : DeviceState} (h : Reported os os' st) : os.log <+: os'.log :=
  let ⟨seg, hl, _⟩ := h; ⟨seg, hl.symm⟩

/-- an append that went on to stop the device does not return Running -/
theorem Reported.stopped {os os' : Os} {st : DeviceState} (h : os.log <+: os'.log) (hst : st = .armed) :
    Reported os os' st :=
  let ⟨seg, hl⟩ := h; ⟨seg, hl.symm, fun hr => by rw [hst] at hr; cases hr⟩

theorem fileClose_log (os : Os) (fd : Fd) : os.log <+: (fileClose os fd).log :=
  ⟨_, (sysClose_spec os fd).1.symm⟩

theorem fileCreate_log (os : Os) (p : Path) : ∃ res rest, (fileCreate os p).1.log = os.log ++ .open p res :: rest := by
  rcases fileCreate_tr os p with ⟨os', res, rest, he, ht, _⟩ | ⟨os', fd, he, ht, _⟩
  · exact ⟨res, rest, by rw [he]; exact ht.1⟩
  · exact ⟨_, _, by rw [he]; exact ht.1⟩

/-! ## the device's descriptor -/

/-- the descriptors open in the OS are exactly the one the device believes it holds -/
def DevInv (os : Os) : Dev → Prop
  | .raw r => os.fdKeys = (if r.isOpen then [r.fid] else []) ∧ (r.isOpen = true ↔ r.state = .running)
  | .tiff t => os.fdKeys = (if t.state = .running then [t.fid] else [])
  | .sxs x => os.fdKeys = (if x.tiff.state = .running then [x.tiff.fid] else []) ∧
      (x.state = .running ↔ x.tiff.state = .running)
  | .trash _ => os.fdKeys = []

theorem raw_closed_of_idle {r : Raw} (h : r.isOpen = true ↔ r.state = .running) (hi : r.state ≠ .running) :
    r.isOpen = false := Bool.eq_false_iff.mpr (mt h.mp hi)

theorem DevInv.idle {os : Os} {d : Dev} (h : DevInv os d) (hi : d.state ≠ .running) : os.fdKeys = [] := by
  cases d with
  | raw r => simpa [raw_closed_of_idle h.2 hi] using h.1
  | tiff t => simpa [DevInv, show t.state ≠ .running from hi] using h
  | sxs x => simpa [show x.tiff.state ≠ .running from mt h.2.mpr hi] using h.1
  | trash t => exact h

/-! ## raw -/

theorem rawSet_spec (os : Os) (r : Raw) (uri : Bytes) :
    let a := rawSet os r uri
    ∃ seg, Tr os a.1 seg ∧ a.1.fds = os.fds ∧ NoIo seg ∧ a.2.1.isOpen = r.isOpen ∧ a.2.2 ≠ .running := by
  unfold rawSet
  split
  · exact ⟨[], Tr.refl os, rfl, NoIo.nil, rfl, by simp⟩
  · obtain ⟨seg, ht, hf, hio⟩ := fileIsWritable_tr os (cstr (uri.drop (uriOffset uri)))
    simp only
    split <;> rename_i os1 hw <;> rw [hw] at ht hf
    · exact ⟨seg, ht, hf, hio, rfl, by simp⟩
    · exact ⟨seg, ht, hf, hio, by split <;> rfl, by simp⟩

theorem rawStart_spec (os : Os) (r : Raw) :
    (∃ os', rawStart os r = (os', { r with offset := 0 }, .awaiting) ∧ Reach os os' ∧ os'.fds = os.fds) ∨
    (∃ os' fd, rawStart os r = (os', { r with offset := 0, fid := fd, isOpen := true }, .running) ∧
      Reach os os' ∧ os'.fds = (fd, cstr r.uri) :: os.fds ∧
      os'.files = setFile os.files (cstr r.uri) (os.content (cstr r.uri))) := by
  unfold rawStart
  rcases fileCreate_tr os (cstr r.uri) with ⟨os', res, rest, he, ht, hf⟩ | ⟨os', fd, he, ht, hf, hfiles⟩
  · left; exact ⟨os', by simp [he], ht.reach, hf⟩
  · right; exact ⟨os', fd, by simp [he], ht.reach, hf, hfiles⟩

theorem rawStart_os (os : Os) (r : Raw) : (rawStart os r).1 = (fileCreate os (cstr r.uri)).1 := by
  unfold rawStart
  simp only
  split <;> rename_i h <;> simp [h]

theorem rawStop_closed (os : Os) (r : Raw) (h : r.isOpen = false) : rawStop os r = (os, r, .armed) := by
  simp [rawStop, h]

theorem rawStop_open (os : Os) (r : Raw) (h : r.isOpen = true) :
    rawStop os r = (fileClose os r.fid, { r with isOpen := false }, .armed) := by
  simp [rawStop, h]

theorem rawStop_state (os : Os) (r : Raw) : (rawStop os r).2.2 = .armed := by
  unfold rawStop; split <;> rfl

theorem rawStop_log (os : Os) (r : Raw) : os.log <+: (rawStop os r).1.log := by
  unfold rawStop
  split
  · exact fileClose_log os r.fid
  · exact List.prefix_rfl

/-- `raw_stop` when the descriptor table agrees with `is_open` -/
theorem rawStop_spec (os : Os) (r : Raw) (h : os.fdKeys = if r.isOpen then [r.fid] else []) :
    let a := rawStop os r
    Reach os a.1 ∧ a.1.fdKeys = [] ∧ a.2.1.isOpen = false := by
  cases ho : r.isOpen with
  | false =>
    rw [rawStop_closed os r ho]
    exact ⟨.refl os, by simpa [ho] using h, ho⟩
  | true =>
    rw [rawStop_open os r ho]
    obtain ⟨ht, hk⟩ := fileClose_tr os r.fid (by simpa [ho] using h)
    exact ⟨ht, hk, rfl⟩

theorem rawAppend_spec (os : Os) (r : Raw) (pkt : Bytes) (hd : DevInv os (.raw r)) (hr : r.state = .running) :
    let a := rawAppend os r pkt
    Reach os a.1 ∧ DevInv a.1 (.raw { a.2.1 with state := a.2.2 }) := by
  have hopen : r.isOpen = true := hd.2.mpr hr
  have hk : os.fdKeys = [r.fid] := by simpa [hopen] using hd.1
  unfold rawAppend
  obtain ⟨ht, hk1⟩ := fileWrite_tr os r.fid r.offset pkt hk
  split <;> rename_i os1 hw <;> rw [hw] at ht hk1
  · exact ⟨ht, by simp [DevInv, hopen, hk1]⟩
  · obtain ⟨ht2, hk2, hcl⟩ := rawStop_spec os1 r (by simp [hopen, hk1])
    exact ⟨ht.trans ht2, by simp [DevInv, hk2, hcl, rawStop_state]⟩

theorem rawAppend_reported (os : Os) (r : Raw) (pkt : Bytes) :
    Reported os (rawAppend os r pkt).1 (rawAppend os r pkt).2.2 := by
  unfold rawAppend
  split
  next os1 hw => exact (fileWrite_pw hw).reported _
  next os1 hw => exact .stopped ((fileWrite_pw hw).log.trans (rawStop_log os1 r)) (rawStop_state os1 r)

/-! ## tiff -/

theorem tiffSet_spec (os : Os) (t : Tiff) (uri : Bytes) (n : Nat) (md : Bytes) :
    let a := tiffSet os t uri n md
    ∃ seg, Tr os a.1 seg ∧ a.1.fds = os.fds ∧ NoIo seg ∧ a.2.1.state = t.state ∧ a.2.2 ≠ .running := by
  unfold tiffSet
  split
  · exact ⟨[], Tr.refl os, rfl, NoIo.nil, rfl, by simp⟩
  · obtain ⟨seg, ht, hf, hio⟩ := fileIsWritable_tr os (cstr ((uri.drop (uriOffset uri)).take (n - uriOffset uri)))
    simp only
    split <;> rename_i os1 hw <;> rw [hw] at ht hf
    · exact ⟨seg, ht, hf, hio, rfl, by simp⟩
    · split <;> exact ⟨seg, ht, hf, hio, rfl, by simp⟩

theorem Tiff.start_spec (os : Os) (t : Tiff) (hk : os.fdKeys = []) :
    let a := t.start os
    Reach os a.1 ∧ a.2.1.state = t.state ∧ a.1.fdKeys = if a.2.2 = true then [a.2.1.fid] else [] := by
  unfold Tiff.start
  simp only
  rcases fileCreate_tr os (cstr t.filename) with ⟨os1, res, rest, he, ht, hf⟩ | ⟨os1, fd, he, ht, hf, _⟩
  · rw [he]
    exact ⟨ht.reach, rfl, by simp [(Os.fdKeys_eq hf).trans hk]⟩
  · rw [he]
    simp only
    obtain ⟨ht2, hk2⟩ := fileWrite_tr os1 fd 0 (zeros tiffHeaderBytes) (by rw [Os.fdKeys_cons hf, hk])
    split <;> rename_i os2 hw <;> rw [hw] at ht2 hk2
    · exact ⟨ht.reach.trans ht2, rfl, by simp [hk2]⟩
    · obtain ⟨ht3, hk3⟩ := fileClose_tr os2 fd hk2
      exact ⟨(ht.reach.trans ht2).trans ht3, rfl, by simp [hk3]⟩

theorem tiffStart_eq (os : Os) (t : Tiff) :
    tiffStart os t = ((t.start os).1, (t.start os).2.1, if (t.start os).2.2 = true then .running else .awaiting) := by
  unfold tiffStart
  split <;> rename_i h <;> simp [h]

theorem tiffStart_spec (os : Os) (t : Tiff) (hk : os.fdKeys = []) :
    let a := tiffStart os t
    Reach os a.1 ∧ a.2.1.state = t.state ∧ DevInv a.1 (.tiff { a.2.1 with state := a.2.2 }) := by
  rw [tiffStart_eq]
  obtain ⟨ht, hs, hk1⟩ := Tiff.start_spec os t hk
  refine ⟨ht, hs, ?_⟩
  cases hok : (t.start os).2.2 <;> simpa [DevInv, hok] using hk1

theorem Tiff.stop_idle (os : Os) (t : Tiff) (h : t.state ≠ .running) : t.stop os = (os, t) := by
  simp [Tiff.stop, h]

theorem Tiff.stop_running (os : Os) (t : Tiff) (h : t.state = .running) :
    t.stop os = (fileClose (fileWrite os t.fid 0 (zeros tiffTerminatorBytes)).1 t.fid,
      { t with state := .armed, frameCount := 0 }) := by
  simp [Tiff.stop, h]

theorem Tiff.stop_spec (os : Os) (t : Tiff) (h : DevInv os (.tiff t)) :
    let a := t.stop os
    Reach os a.1 ∧ a.1.fdKeys = [] ∧ a.2.state ≠ .running := by
  by_cases hr : t.state = .running
  · rw [Tiff.stop_running os t hr]
    obtain ⟨ht, hk1⟩ := fileWrite_tr os t.fid 0 (zeros tiffTerminatorBytes) (by simpa [DevInv, hr] using h)
    obtain ⟨ht2, hk2⟩ := fileClose_tr _ t.fid hk1
    exact ⟨ht.trans ht2, hk2, by simp⟩
  · rw [Tiff.stop_idle os t hr]
    exact ⟨.refl os, by simpa [DevInv, hr] using h, hr⟩

theorem tiffStop_eq (os : Os) (t : Tiff) : tiffStop os t = ((t.stop os).1, (t.stop os).2, .armed) := rfl

theorem Tiff.stop_log (os : Os) (t : Tiff) : os.log <+: (t.stop os).1.log := by
  unfold Tiff.stop
  split
  · exact (fileWrite_pw rfl).log.trans (fileClose_log _ t.fid)
  · exact List.prefix_rfl

theorem Tiff.appendFrames_pw (fs : List FrameIo) (os : Os) (t : Tiff) :
    let a := t.appendFrames os fs
    Wrote t.fid os a.1 a.2.2 ∧ a.2.1.state = t.state ∧ a.2.1.fid = t.fid := by
  induction fs generalizing os t with
  | nil => exact ⟨Wrote.refl t.fid os, rfl, rfl⟩
  | cons f fs ih =>
    unfold Tiff.appendFrames
    split
    next os1 h1 => exact ⟨fileWrite_pw h1, rfl, rfl⟩
    next os1 h1 =>
      have w1 := fileWrite_pw h1
      split
      next os2 h2 => exact ⟨w1.trans (fileWrite_pw h2), rfl, rfl⟩
      next os2 h2 =>
        have w2 := w1.trans (fileWrite_pw h2)
        split
        next os3 h3 => exact ⟨w2.trans (fileWrite_pw h3), rfl, rfl⟩
        next os3 h3 =>
          obtain ⟨w4, hs, hf⟩ := ih os3 { t with frameCount := t.frameCount + 1 }
          exact ⟨(w2.trans (fileWrite_pw h3)).trans w4, hs, hf⟩

theorem tiffAppend_spec (os : Os) (t : Tiff) (fs : List FrameIo) (hd : DevInv os (.tiff t)) (hr : t.state = .running) :
    let a := tiffAppend os t fs
    Reach os a.1 ∧ DevInv a.1 (.tiff { a.2.1 with state := a.2.2 }) ∧
      (a.2.1.state = .running ↔ a.2.2 = .running) := by
  have hk : os.fdKeys = [t.fid] := by simpa [DevInv, hr] using hd
  unfold tiffAppend
  obtain ⟨hw, hs, hfid⟩ := Tiff.appendFrames_pw fs os t
  obtain ⟨ht, hf⟩ := hw.reach (mem_of_keys_singleton hk)
  have hk1 : (t.appendFrames os fs).1.fdKeys = [(t.appendFrames os fs).2.1.fid] := by rw [Os.fdKeys_eq hf, hk, hfid]
  split
  next os1 t1 ha =>
    rw [ha] at ht hk1 hs
    exact ⟨ht, by simp [DevInv, hk1], by simp [show t1.state = .running from hs.trans hr]⟩
  next os1 t1 ha =>
    rw [ha] at ht hk1 hs
    rw [tiffStop_eq]
    obtain ⟨ht2, hk2, hns⟩ := Tiff.stop_spec os1 t1 (by simp [DevInv, show t1.state = .running from hs.trans hr, hk1])
    exact ⟨ht.trans ht2, by simp [DevInv, hk2], by simp [hns]⟩

theorem tiffAppend_reported (os : Os) (t : Tiff) (fs : List FrameIo) :
    Reported os (tiffAppend os t fs).1 (tiffAppend os t fs).2.2 := by
  unfold tiffAppend
  have hw := (Tiff.appendFrames_pw fs os t).1
  split
  next os1 t1 ha => rw [ha] at hw; exact hw.reported _
  next os1 t1 ha => rw [ha] at hw; exact .stopped (hw.log.trans (Tiff.stop_log os1 t1)) rfl

theorem tiffDestroy_spec (os : Os) (t : Tiff) (h : DevInv os (.tiff t)) :
    let a := tiffDestroy os t
    Reach os a.1 ∧ a.1.fdKeys = [] ∧ a.2.state ≠ .running := by
  unfold tiffDestroy
  simp only [tiffStop_eq]
  obtain ⟨ht, hk, hns⟩ := Tiff.stop_spec os t h
  rw [Tiff.stop_idle _ _ hns]
  exact ⟨ht, hk, hns⟩

/-! ## tiff-json (side by side) -/

theorem sxsSet_spec (os : Os) (x : Sxs) (uri md : Bytes) :
    let a := sxsSet os x uri md
    a.1 = os ∧ a.2.1.tiff = x.tiff ∧ a.2.2 ≠ .running := by
  unfold sxsSet
  split
  · exact ⟨rfl, rfl, by simp⟩
  · split
    · exact ⟨rfl, rfl, by simp⟩
    · simp only
      split <;> exact ⟨trivial, rfl, by simp⟩

theorem sxsFolder_spec (os : Os) (path : Path) :
    Reach os (sxsFolder os path).1 ∧ (sxsFolder os path).1.fds = os.fds := by
  unfold sxsFolder
  split
  · exact ⟨.refl os, rfl⟩
  · exact ⟨(tr_mkdir os path).1.reach, (tr_mkdir os path).2⟩

theorem sxsMetadata_spec (os : Os) (x : Sxs) (path : Path) (hk : os.fdKeys = []) :
    Reach os (sxsMetadata os x path).1 ∧ (sxsMetadata os x path).1.fdKeys = [] := by
  unfold sxsMetadata
  split
  · rcases fileCreate_tr os (path ++ slashMetadataJson) with ⟨os1, res, rest, he, ht, hf⟩ | ⟨os1, fd, he, ht, hf, _⟩
    · rw [he]
      exact ⟨ht.reach, (Os.fdKeys_eq hf).trans hk⟩
    · rw [he]
      simp only
      obtain ⟨ht2, hk2⟩ := fileWrite_tr os1 fd 0 (x.md.take (x.md.length - 1)) (by rw [Os.fdKeys_cons hf, hk])
      obtain ⟨ht3, hk3⟩ := fileClose_tr _ fd hk2
      exact ⟨(ht.reach.trans ht2).trans ht3, hk3⟩
  · exact ⟨.refl os, hk⟩

theorem sxsInner_spec (os : Os) (x : Sxs) (path : Path) (hk : os.fdKeys = []) (hidle : x.tiff.state ≠ .running) :
    let a := sxsInner os x path
    Reach os a.1 ∧ DevInv a.1 (.sxs { a.2.1 with state := a.2.2 }) := by
  unfold sxsInner
  simp only
  obtain ⟨seg, ht, hf, _, hts, _⟩ :=
    tiffSet_spec os x.tiff (path ++ slashDataTif ++ [0]) (path ++ slashDataTif).length (copyString x.md)
  generalize tiffSet os x.tiff (path ++ slashDataTif ++ [0]) (path ++ slashDataTif).length (copyString x.md) = w
    at ht hf hts ⊢
  have hk1 := (Os.fdKeys_eq hf).trans hk
  split
  · exact ⟨ht.reach, by simp [DevInv, hk1, show w.2.1.state ≠ .running from fun h => hidle (hts.symm.trans h)]⟩
  · rename_i harm
    have harm : w.2.2 = .armed := by simpa using harm
    obtain ⟨ht2, hs2, hd2⟩ := tiffStart_spec w.1 { w.2.1 with state := w.2.2 } hk1
    split
    · rename_i hne
      have hst : (tiffStart w.1 { w.2.1 with state := w.2.2 }).2.1.state ≠ .running := by rw [hs2, harm]; simp
      exact ⟨ht.reach.trans ht2, by simpa [DevInv, hne, hst] using hd2⟩
    · rename_i hne
      exact ⟨ht.reach.trans ht2, by simpa [DevInv, Decidable.not_not.mp hne] using hd2⟩

theorem sxsStart_spec (os : Os) (x : Sxs) (hk : os.fdKeys = []) (hidle : x.tiff.state ≠ .running) :
    let a := sxsStart os x
    Reach os a.1 ∧ DevInv a.1 (.sxs { a.2.1 with state := a.2.2 }) := by
  unfold sxsStart
  simp only
  obtain ⟨ht, hf⟩ := sxsFolder_spec os (x.uri.take (x.uri.length - 1))
  have hk1 := (Os.fdKeys_eq hf).trans hk
  split
  next os1 h1 =>
    rw [h1] at ht hk1
    exact ⟨ht, by simp [DevInv, hk1, hidle]⟩
  next os1 h1 =>
    rw [h1] at ht hk1
    obtain ⟨ht2, hk2⟩ := sxsMetadata_spec os1 x (x.uri.take (x.uri.length - 1)) hk1
    split
    next os2 h2 =>
      rw [h2] at ht2 hk2
      exact ⟨ht.trans ht2, by simp [DevInv, hk2, hidle]⟩
    next os2 h2 =>
      rw [h2] at ht2 hk2
      obtain ⟨ht3, h3⟩ := sxsInner_spec os2 x (x.uri.take (x.uri.length - 1)) hk2 hidle
      exact ⟨(ht.trans ht2).trans ht3, h3⟩

theorem sxsStop_eq (os : Os) (x : Sxs) :
    sxsStop os x = ((x.tiff.stop os).1, { x with tiff := (x.tiff.stop os).2 }, .armed) := rfl

theorem sxsStop_state (os : Os) (x : Sxs) : (sxsStop os x).2.2 = .armed := rfl

theorem sxsStop_spec (os : Os) (x : Sxs) (h : DevInv os (.tiff x.tiff)) :
    let a := sxsStop os x
    Reach os a.1 ∧ a.1.fdKeys = [] ∧ a.2.1.tiff.state ≠ .running :=
  Tiff.stop_spec os x.tiff h

theorem sxsAppend_spec (os : Os) (x : Sxs) (fs : List FrameIo) (hd : DevInv os (.sxs x)) (hr : x.state = .running) :
    let a := sxsAppend os x fs
    Reach os a.1 ∧ DevInv a.1 (.sxs { a.2.1 with state := a.2.2 }) := by
  unfold sxsAppend
  obtain ⟨ht, hd1, hiff⟩ := tiffAppend_spec os x.tiff fs hd.1 (hd.2.mp hr)
  split
  next os1 t1 st1 ha =>
    rw [ha] at ht hd1 hiff
    split
    next hst => exact ⟨ht, by simpa [DevInv, hst, show t1.state = .running from hiff.mpr hst] using hd1⟩
    next hst =>
      have hts : t1.state ≠ .running := mt hiff.mp hst
      obtain ⟨ht2, hk2, hns⟩ := sxsStop_spec os1 { x with tiff := t1 } (by simpa [DevInv, hts, hst] using hd1)
      exact ⟨ht.trans ht2, by simp [DevInv, hk2, hns, sxsStop_state]⟩

theorem sxsAppend_reported (os : Os) (x : Sxs) (fs : List FrameIo) :
    Reported os (sxsAppend os x fs).1 (sxsAppend os x fs).2.2 := by
  unfold sxsAppend
  have h := tiffAppend_reported os x.tiff fs
  split
  next os1 t1 st1 ha =>
    rw [ha] at h
    split
    next hr => exact hr ▸ h
    next hr => exact .stopped (h.log.trans (Tiff.stop_log os1 t1)) rfl

theorem sxsDestroy_spec (os : Os) (x : Sxs) (h : DevInv os (.tiff x.tiff)) :
    let a := sxsDestroy os x
    Reach os a.1 ∧ a.1.fdKeys = [] ∧ a.2.tiff.state ≠ .running := by
  unfold sxsDestroy
  obtain ⟨ht, hk, hns⟩ := sxsStop_spec os x h
  split
  next os1 x1 st1 hs =>
    rw [hs] at ht hk hns
    obtain ⟨ht2, hk2, hns2⟩ := tiffDestroy_spec os1 x1.tiff (by simp [DevInv, hns, hk])
    exact ⟨ht.trans ht2, hk2, hns2⟩

/-! ## the vtable -/

theorem Dev.append_reported (os : Os) (d : Dev) (fs : List Frame) :
    Reported os (d.append os fs).1 (d.append os fs).2.2 := by
  cases d with
  | raw r => exact rawAppend_reported os r (packetBytes fs)
  | tiff t => exact tiffAppend_reported os t (fs.map Frame.io)
  | sxs x => exact sxsAppend_reported os x (fs.map Frame.io)
  | trash t => exact (Wrote.refl 0 os).reported _

end AcqVerif.Storage
