import AcqVerif.Storage.OsLemmas
/-!
# What each system call and each `platform.c` function does to the log, the
descriptor table and the files (used by the C14 and C16 proofs).
-/
namespace AcqVerif.Storage

theorem lookup_isSome_of_mem (fds : List (Fd × Path)) (fd : Fd) (h : fd ∈ fds.map (·.1)) :
    ∃ p, fds.lookup fd = some p := by
  induction fds with
  | nil => cases h
  | cons e t ih =>
    obtain ⟨k, v⟩ := e
    simp only [List.lookup]
    split
    · exact ⟨v, rfl⟩
    · rename_i hne
      exact ih (by simpa [show fd ≠ k by simpa using hne] using h)

/-! ## system calls -/

theorem sysOpen_none {os os' : Os} {p : Path} (h : sysOpen os p = (os', none)) :
    os'.log = os.log ++ [.open p none] ∧ os'.fds = os.fds ∧ os'.files = os.files := by
  unfold sysOpen at h
  simp only at h
  split at h
  · simp only [Prod.mk.injEq, and_true] at h; subst h; simp
  · simp at h

theorem sysOpen_some {os os' : Os} {p : Path} {fd : Fd} (h : sysOpen os p = (os', some fd)) :
    os'.log = os.log ++ [.open p (some fd)] ∧ os'.fds = (fd, p) :: os.fds ∧ fd ∉ os.fdKeys ∧
    os'.files = setFile os.files p (os.content p) := by
  unfold sysOpen at h
  simp only at h
  split at h
  · simp at h
  · simp only [Prod.mk.injEq, Option.some.injEq] at h
    obtain ⟨h1, h2⟩ := h
    subst h1; subst h2
    exact ⟨rfl, rfl, allocFd_not_mem _ _, rfl⟩

theorem sysFlock_spec (os : Os) (fd : Fd) :
    let a := sysFlock os fd
    a.1.log = os.log ++ [.flock fd a.2] ∧ a.1.fds = os.fds ∧ a.1.files = os.files := by
  simp [sysFlock]

theorem sysClose_spec (os : Os) (fd : Fd) :
    let a := sysClose os fd
    a.1.log = os.log ++ [.close fd a.2] ∧ a.1.fds = os.fds.filter (fun e => e.1 ≠ fd) ∧ a.1.files = os.files := by
  simp [sysClose]

theorem sysMkdir_spec (os : Os) (p : Path) :
    let a := sysMkdir os p
    a.1.log = os.log ++ [.mkdir p a.2] ∧ a.1.fds = os.fds ∧ a.1.files = os.files := by
  unfold sysMkdir
  simp only
  split <;> simp

theorem sysUnlink_spec (os : Os) (p : Path) :
    (sysUnlink os p).log = os.log ++ [.unlink p] ∧ (sysUnlink os p).fds = os.fds := by
  simp [sysUnlink]

theorem sysPwrite_none {os os' : Os} {fd off : Nat} {d : Bytes} (h : sysPwrite os fd off d = (os', none)) :
    os'.log = os.log ++ [.pwrite fd off d.length none] ∧ os'.fds = os.fds ∧ os'.files = os.files := by
  unfold sysPwrite at h
  simp only at h
  split at h
  · simp only [Prod.mk.injEq, and_true] at h; subst h; simp
  · split at h
    · simp only [Prod.mk.injEq, and_true] at h; subst h; simp
    · simp at h

theorem sysPwrite_some {os os' : Os} {fd off w : Nat} {d : Bytes} (h : sysPwrite os fd off d = (os', some w)) :
    os'.log = os.log ++ [.pwrite fd off d.length (some w)] ∧ os'.fds = os.fds ∧ w ≤ d.length ∧
    ∃ p, os.fds.lookup fd = some p ∧
      os'.files = if w = 0 then os.files else setFile os.files p (writeAt (os.content p) off (d.take w)) := by
  have hw := sysPwrite_le h
  unfold sysPwrite at h
  simp only at h
  split at h
  · simp at h
  · rename_i p hp
    split at h
    · simp at h
    · simp only [Prod.mk.injEq, Option.some.injEq] at h
      obtain ⟨h1, h2⟩ := h
      subst h1; subst h2
      exact ⟨rfl, rfl, hw, p, hp, rfl⟩

/-! ## `file_write` -/

theorem sysPwrite_keeps (os : Os) (fd off : Nat) (d : Bytes) :
    (sysPwrite os fd off d).1.oracle = os.oracle ∧ (sysPwrite os fd off d).1.wfails = os.wfails := by
  unfold sysPwrite; simp only; split
  · exact ⟨rfl, rfl⟩
  · split <;> exact ⟨rfl, rfl⟩

theorem fileWriteLoop_keeps (os : Os) (fd off : Nat) (buf : Bytes) (r : Nat) :
    (fileWriteLoop os fd off buf r).1.oracle = os.oracle ∧ (fileWriteLoop os fd off buf r).1.wfails = os.wfails := by
  fun_induction fileWriteLoop os fd off buf r with
  | case1 os off buf r hc os' hp => have := sysPwrite_keeps os fd off buf; rwa [hp] at this
  | case2 os off buf r hc os' w hp ih =>
    have := sysPwrite_keeps os fd off buf
    rw [hp] at this
    simp only [dite_eq_ite] at ih
    exact ⟨ih.1.trans this.1, ih.2.trans this.2⟩
  | case3 => exact ⟨rfl, rfl⟩

theorem fileWriteLoop_log (os : Os) (fd off : Nat) (buf : Bytes) (r : Nat) :
    let a := fileWriteLoop os fd off buf r
    ∃ seg, a.1.log = os.log ++ seg ∧ a.1.fds = os.fds ∧ PwOn fd seg ∧ (a.2 = true → NoFail seg) ∧
      seg.length ≤ buf.length + (3 - r) := by
  fun_induction fileWriteLoop os fd off buf r with
  | case1 os off buf r hc os' hp =>
    obtain ⟨hl, hf, _⟩ := sysPwrite_none hp
    have := List.length_pos_iff.mpr hc.1
    exact ⟨[.pwrite fd off buf.length none], hl, hf, by simp [PwOn], by simp, by simp; omega⟩
  | case2 os off buf r hc os' w hp ih =>
    obtain ⟨hl, hf, _⟩ := sysPwrite_some hp
    simp only [dite_eq_ite] at ih
    obtain ⟨seg, h1, h2, h3, h4, h5⟩ := ih
    have := List.length_pos_iff.mpr hc.1
    refine ⟨.pwrite fd off buf.length (some w) :: seg, by rw [h1, hl]; simp, h2.trans hf,
      List.forall_mem_cons.mpr ⟨⟨_, _, _, rfl⟩, h3⟩, fun hok => List.forall_mem_cons.mpr ⟨rfl, h4 hok⟩, ?_⟩
    simp only [List.length_cons, List.length_drop] at h5 ⊢
    split at h5 <;> omega
  | case3 os off buf r hc =>
    exact ⟨[], by simp, rfl, PwOn.nil fd, fun _ => NoFail.nil, by simp⟩

theorem fileWrite_log (os : Os) (fd off : Nat) (buf : Bytes) :
    let a := fileWrite os fd off buf
    ∃ seg, a.1.log = os.log ++ seg ∧ a.1.fds = os.fds ∧ PwOn fd seg ∧ (a.2 = true → NoFail seg) ∧
      seg.length ≤ buf.length + 3 := by
  rw [fileWrite_eq]
  exact fileWriteLoop_log os fd off buf 0

theorem fileWrite_oracle (os : Os) (fd off : Nat) (buf : Bytes) : (fileWrite os fd off buf).1.oracle = os.oracle := by
  rw [fileWrite_eq]
  exact (fileWriteLoop_keeps os fd off buf 0).1

/-- `Os.wfails` counts the `file_write` calls that reported failure (an error return of `pwrite`,
    or three `pwrite`s that wrote nothing): each call counts exactly its own failure -/
theorem fileWrite_wfails (os : Os) (fd off : Nat) (buf : Bytes) :
    (fileWrite os fd off buf).1.wfails = os.wfails + (if (fileWrite os fd off buf).2 = true then 0 else 1) := by
  rw [fileWrite_eq]
  exact congrArg (· + _) (fileWriteLoop_keeps os fd off buf 0).2

end AcqVerif.Storage
