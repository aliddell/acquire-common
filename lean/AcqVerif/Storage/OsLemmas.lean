import AcqVerif.Storage.FileWrite
/-!
# Lemmas about the OS model: `writeAt`, the ownership automaton, and what each
system call does to the log, the descriptor table and the files.
-/
namespace AcqVerif.Storage

/-! ## `writeAt` -/

theorem writeAt_prefix_length (f : Bytes) (off : Nat) :
    ((f ++ List.replicate (off - f.length) 0).take off).length = off := by
  simp [List.length_take]; omega

/-- two adjacent writes are one write of the concatenation -/
theorem writeAt_append (f : Bytes) (off : Nat) (a b : Bytes) :
    writeAt (writeAt f off a) (off + a.length) b = writeAt f off (a ++ b) := by
  unfold writeAt
  have hP := writeAt_prefix_length f off
  generalize (f ++ List.replicate (off - f.length) 0).take off = P at hP ⊢
  subst hP
  have h1 : ∀ t : Bytes, (P ++ a ++ t).take (P.length + a.length) = P ++ a := fun t =>
    List.take_left' (by simp)
  have h2 : ∀ t : Bytes, (P ++ a ++ t).drop (P.length + a.length + b.length) = t.drop b.length := fun t => by
    rw [← List.drop_drop, List.drop_left' (by simp)]
  rw [List.append_assoc (P ++ a), h1, h2, List.drop_drop]
  simp [Nat.add_assoc]

theorem writeAt_end (f d : Bytes) : writeAt f f.length d = f ++ d := by
  unfold writeAt; simp

theorem writeAt_length (f : Bytes) (off : Nat) (d : Bytes) :
    (writeAt f off d).length = max f.length (off + d.length) := by
  unfold writeAt; simp [List.length_take]; omega

theorem writeAt_getD_lt (f : Bytes) (off : Nat) (d : Bytes) (i : Nat) (h : i < off) :
    (writeAt f off d).getD i 0 = f.getD i 0 := by
  unfold writeAt
  simp only [List.getD_eq_getElem?_getD]
  rw [List.append_assoc, List.getElem?_append_left (by rw [writeAt_prefix_length]; exact h),
    List.getElem?_take_of_lt h, List.getElem?_append]
  split
  · rfl
  · rename_i hi
    rw [List.getElem?_replicate, List.getElem?_eq_none (Nat.le_of_not_lt hi)]
    split <;> rfl

theorem writeAt_getD_ge (f : Bytes) (off : Nat) (d : Bytes) (i : Nat) (h : i ≥ off + d.length) :
    (writeAt f off d).getD i 0 = f.getD i 0 := by
  unfold writeAt
  simp only [List.getD_eq_getElem?_getD]
  have hPl := writeAt_prefix_length f off
  rw [List.getElem?_append_right (by simp [List.length_take]; omega)]
  simp only [List.length_append, hPl, List.getElem?_drop]
  congr 2; omega

/-! ## descriptors -/

theorem le_foldl_max (l : List Nat) (a x : Nat) (h : x ≤ a ∨ x ∈ l) : x ≤ l.foldl max a := by
  induction l generalizing a with
  | nil => simpa using h
  | cons y t ih =>
    rcases h with h | h
    · exact ih _ (.inl (Nat.le_trans h (Nat.le_max_left a y)))
    · rcases List.mem_cons.mp h with rfl | m
      · exact ih _ (.inl (Nat.le_max_right a x))
      · exact ih _ (.inr m)

/-- `open` never hands out a descriptor that is still open -/
theorem allocFd_not_mem (used : List Fd) (c : Fd) : allocFd used c ∉ used := by
  unfold allocFd
  split
  · intro h
    have := le_foldl_max used 0 _ (Or.inr h)
    omega
  · assumption

/-! ## the ownership automaton -/

theorem ownRun_append (o : List Fd) (a b : List Ev) :
    ownRun o (a ++ b) = (ownRun o a).bind (fun o' => ownRun o' b) := by
  induction a generalizing o with
  | nil => simp [ownRun]
  | cons e es ih =>
    simp only [List.cons_append, ownRun]
    cases ownStep o e with
    | none => simp
    | some o' => simpa using ih o'

/-- a disciplined trace has only disciplined prefixes -/
theorem ownRun_prefix {o o' : List Fd} {a b : List Ev} (h : ownRun o (a ++ b) = some o') :
    ∃ o'', ownRun o a = some o'' := by
  rw [ownRun_append] at h
  cases h' : ownRun o a with
  | none => simp [h'] at h
  | some x => exact ⟨x, rfl⟩

/-- events that never break the discipline and never change the owned set -/
def Ev.neutral : Ev → Bool
  | .open _ none => true
  | .mkdir _ _ => true
  | .unlink _ => true
  | _ => false

/-! ## predicates on segments -/

/-- no `pwrite` of the segment returned an error -/
def NoFail (seg : List Ev) : Prop := ∀ e ∈ seg, e.isFailedPwrite = false

/-- the segment contains neither `pwrite` nor `flock` -/
def NoIo (seg : List Ev) : Prop := ∀ e ∈ seg, e.isPwrite = false ∧ e.isFlock = false

theorem NoFail.append {a b : List Ev} (ha : NoFail a) (hb : NoFail b) : NoFail (a ++ b) :=
  List.forall_mem_append.mpr ⟨ha, hb⟩

theorem NoFail.nil : NoFail [] := by intro e he; cases he

theorem NoIo.append {a b : List Ev} (ha : NoIo a) (hb : NoIo b) : NoIo (a ++ b) :=
  List.forall_mem_append.mpr ⟨ha, hb⟩

theorem NoIo.nil : NoIo [] := by intro e he; cases he

/-- every event of the segment is a `pwrite` on `fd` -/
def PwOn (fd : Fd) (seg : List Ev) : Prop := ∀ e ∈ seg, ∃ o l x, e = Ev.pwrite fd o l x

theorem PwOn.nil (fd : Fd) : PwOn fd [] := by intro e he; cases he

theorem PwOn.append {fd : Fd} {a b : List Ev} (ha : PwOn fd a) (hb : PwOn fd b) : PwOn fd (a ++ b) :=
  List.forall_mem_append.mpr ⟨ha, hb⟩

theorem ownRun_pwrites {o : List Fd} {seg : List Ev} {fd : Fd} (hfd : fd ∈ o) (h : PwOn fd seg) :
    ownRun o seg = some o := by
  induction seg with
  | nil => rfl
  | cons e es ih =>
    obtain ⟨off, len, r, rfl⟩ := h e (by simp)
    simp only [ownRun, ownStep, hfd, if_true]
    exact ih (fun e he => h e (by simp [he]))

end AcqVerif.Storage
