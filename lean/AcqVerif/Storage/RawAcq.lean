import AcqVerif.Storage.RawLemmas
/-!
# The raw device during one acquisition: the invariant behind C14
-/
namespace AcqVerif.Storage

/-- an acquisition on path `p` is in progress and every append so far succeeded:
    the file holds exactly `acc` and the next append goes to its end -/
def RawAcq (s : Sys) (p : Path) (acc : Bytes) : Prop :=
  s.closed = false ∧ ∃ r, s.dev = .raw r ∧ r.state = .running ∧ r.isOpen = true ∧
    s.os.fds.lookup r.fid = some p ∧ r.offset = acc.length ∧ s.os.content p = acc

/-- the device is not running: appends are refused by the HAL and change nothing -/
def RawIdle (s : Sys) : Prop := ∃ r, s.dev = .raw r ∧ r.state ≠ .running

theorem idle_append (s : Sys) (fs : List Frame) (h : RawIdle s) : (step s (.append fs)).1 = s := by
  obtain ⟨r, hd, hs⟩ := h
  unfold step
  split
  · rfl
  · simp [storageAppend, hd, Dev.state, hs]

/-- one append during a healthy acquisition: either it succeeds and the file grew by exactly the
    packet, or a `file_write` to an open descriptor failed and the device left the running state -/
theorem append_step (s : Sys) (p : Path) (acc : Bytes) (fs : List Frame) (h : RawAcq s p acc) :
    RawAcq (step s (.append fs)).1 p (acc ++ packetBytes fs) ∨
    (RawIdle (step s (.append fs)).1 ∧
      ∃ fd off, (fileWrite s.os fd off (packetBytes fs)).2 = false ∧ ∃ q, s.os.fds.lookup fd = some q) := by
  obtain ⟨hc, r, hd, hst, hopen, hlk, hoff, hcont⟩ := id h
  rw [step_append hc]
  by_cases hempty : packetBytes fs = []
  · have : storageAppend s fs = (s, .ok) := by simp [storageAppend, hd, Dev.state, hst, hempty]
    rw [this, hempty, List.append_nil]
    exact .inl h
  · simp only [storageAppend, hd, Dev.state, hst, hempty, ne_eq, not_true_eq_false, if_false, Dev.append, Dev.setState]
    have hfiles := fileWrite_content s.os r.fid r.offset (packetBytes fs) p hlk
    unfold rawAppend
    split
    next os' hres =>
      rw [hres] at hfiles
      obtain ⟨_, _, hfds, _⟩ := fileWrite_pw hres
      refine .inl ⟨hc, _, rfl, rfl, hopen, by simpa only [hfds] using hlk, by simp [hoff], ?_⟩
      simp only [hfiles rfl hempty, hcont, hoff, writeAt_end]
    next os' hres => exact .inr ⟨⟨_, rfl, by simp [rawStop_state]⟩, r.fid, r.offset, by rw [hres], p, hlk⟩

/-- a run of appends that ends in the running state never failed: the file is the
    concatenation of all packets -/
theorem appends_inv (pkts : List (List Frame)) (s : Sys) (p : Path) (acc : Bytes) (h : RawAcq s p acc ∨ RawIdle s)
    (hrun : (runFrom s (pkts.map .append)).dev.state = .running) :
    RawAcq (runFrom s (pkts.map .append)) p (acc ++ (pkts.map packetBytes).flatten) := by
  induction pkts generalizing s acc with
  | nil =>
    rcases h with h | ⟨r, hd, hs⟩
    · simpa [runFrom] using h
    · exact absurd (by simpa [runFrom, hd, Dev.state] using hrun) hs
  | cons fs t ih =>
    simp only [List.map_cons, runFrom, List.flatten_cons, ← List.append_assoc] at hrun ⊢
    rcases h with h | h
    · exact ih _ _ ((append_step s p acc fs h).imp_right And.left) hrun
    · rw [idle_append s fs h] at hrun ⊢
      exact ih s _ (.inr h) hrun

/-- `start` on an armed raw device whose path does not exist: either a healthy acquisition on an
    empty file begins — whatever the device did before — or the device is not running -/
theorem start_fresh (s : Sys) (r : Raw) (hd : s.dev = .raw r) (hc : s.closed = false) (harm : r.state = .armed)
    (hfresh : s.os.files (cstr r.uri) = none) :
    RawAcq (step s .start).1 (cstr r.uri) [] ∨ RawIdle (step s .start).1 := by
  rw [step_start hc, storageStart_raw hd harm]
  rcases rawStart_spec s.os r with ⟨os', he, _⟩ | ⟨os', fd, he, _, hfds, hfiles⟩
  · rw [he]
    exact .inr ⟨_, rfl, by simp⟩
  · rw [he]
    refine .inl ⟨hc, _, rfl, rfl, rfl, by simp [hfds], rfl, ?_⟩
    simp only [Os.content, hfiles, setFile_same, hfresh, Option.getD_none, Option.getD_some]

/-- stops and closes leave the files of a raw device as they are -/
theorem stops_keep_files (ops : List Op) (s : Sys) (r : Raw) (hd : s.dev = .raw r)
    (hops : ∀ op ∈ ops, op = .stop ∨ op = .close) : (runFrom s ops).os.files = s.os.files :=
  (runFrom_inv (P := fun s' => (∃ r', s'.dev = .raw r') ∧ s'.os.files = s.os.files)
    (fun s' op ho ⟨⟨r', h'⟩, hf⟩ => let ⟨hr, _, hf'⟩ := step_raw s' op r' h'; ⟨hr, (hf' (hops op ho)).trans hf⟩)
    ⟨⟨r, hd⟩, rfl⟩).2

end AcqVerif.Storage
