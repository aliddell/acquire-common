import AcqVerif.Storage.Os
/-!
# `acquire-core-platform/linux/platform.c`: `file_create`, `file_close`,
# `file_write`, `file_exists`, `file_is_writable`

Literal transcription over the OS model.  `file_write` is the retry loop
```c
int retries = 0;
while (cur < end && retries < 3) {
    ssize_t written = pwrite(file->fid, cur, end - cur, offset);
    if (written < 0) goto Error;          // return 0
    retries += (written == 0);
    offset += written;  cur += written;
}
return retries < 3;
```
with termination by the explicit measure `remaining + (3 - retries)`.
-/
namespace AcqVerif.Storage

theorem pwriteCount_le {o : Outcome} {n w : Nat} (h : pwriteCount o n = some w) : w ≤ n := by
  cases o <;> simp [pwriteCount] at h <;> (try omega)
  split at h <;> omega

theorem sysPwrite_le {os os' : Os} {fd off : Nat} {d : Bytes} {w : Nat}
    (h : sysPwrite os fd off d = (os', some w)) : w ≤ d.length := by
  unfold sysPwrite at h
  simp only at h
  split at h
  · simp at h
  · split at h
    · simp at h
    · rename_i _ _ w' hw
      have := pwriteCount_le hw
      simp at h
      omega

/-- the loop of `file_write`; `buf` = bytes `[cur, end)` still to be written -/
def fileWriteLoop (os : Os) (fd : Fd) (offset : Nat) (buf : Bytes) (retries : Nat) : Os × Bool :=
  if buf ≠ [] ∧ retries < 3 then
    match h : sysPwrite os fd offset buf with
    | (os', none) => (os', false)
    | (os', some w) =>
      fileWriteLoop os' fd (offset + w) (buf.drop w) (retries + (if w = 0 then 1 else 0))
  else (os, decide (retries < 3))
termination_by buf.length + (3 - retries)
decreasing_by
  have hw := sysPwrite_le h
  rename_i hc
  have _hne : buf.length ≠ 0 := by
    intro h0; exact hc.1 (List.eq_nil_of_length_eq_zero h0)
  simp only [List.length_drop]
  split <;> omega

/-- `file_write(file, offset, cur, end)`; a reported failure is counted in the ghost `wfails` -/
def fileWrite (os : Os) (fd : Fd) (offset : Nat) (buf : Bytes) : Os × Bool :=
  match fileWriteLoop os fd offset buf 0 with
  | (os, true) => (os, true)
  | (os, false) => ({ os with wfails := os.wfails + 1 }, false)

/-- `file_write` is its loop; afterwards only the ghost counter is touched -/
theorem fileWrite_eq (os : Os) (fd off : Nat) (buf : Bytes) :
    let l := fileWriteLoop os fd off buf 0
    fileWrite os fd off buf = ({ l.1 with wfails := l.1.wfails + if l.2 = true then 0 else 1 }, l.2) := by
  unfold fileWrite; cases fileWriteLoop os fd off buf 0 with | mk o b => cases b <;> rfl

/-- `file_create`: `some fd` = success with `file->fid = fd`; on failure the
    caller's `fid` is garbage (-1 or a closed number) and is modelled as unchanged -/
def fileCreate (os : Os) (p : Path) : Os × Option Fd :=
  match sysOpen os p with
  | (os, none) => (os, none)
  | (os, some fd) =>
    match sysFlock os fd with
    | (os, true) => (os, some fd)
    | (os, false) => ((sysClose os fd).1, none)

/-- `file_close` (the result of `close` is only logged) -/
def fileClose (os : Os) (fd : Fd) : Os := (sysClose os fd).1

/-- `file_is_writable`: an existing path is probed with `access(W_OK)` (assumed to
    succeed: the harness creates its files writable), a missing one by
    create–close–unlink -/
def fileIsWritable (os : Os) (p : Path) : Os × Bool :=
  if os.exists p then (os, true)
  else
    match sysOpen os p with
    | (os, none) => (os, false)
    | (os, some fd) => (sysUnlink (sysClose os fd).1 p, true)

end AcqVerif.Storage
