import AcqVerif.Storage.SysSpec
/-!
# Disciplined OS transitions

`Tr os os' seg`: `os'` is `os` after the calls `seg`, and `seg` respects the descriptor
discipline starting from the descriptors open in `os` and ending with those open in `os'`.
Each `platform.c` function is such a transition when it is called on a descriptor the
caller owns.
-/
namespace AcqVerif.Storage

def Tr (os os' : Os) (seg : List Ev) : Prop :=
  os'.log = os.log ++ seg ∧ ownRun os.fdKeys seg = some os'.fdKeys

theorem Tr.refl (os : Os) : Tr os os [] := ⟨by simp, rfl⟩

theorem Tr.trans {a b c : Os} {s t : List Ev} (h1 : Tr a b s) (h2 : Tr b c t) : Tr a c (s ++ t) := by
  refine ⟨by rw [h2.1, h1.1, List.append_assoc], ?_⟩
  rw [ownRun_append, h1.2]
  exact h2.2

theorem Tr.of_keys {a b : Os} {s : List Ev} (h : Tr a b s) (k : List Fd) (hk : a.fdKeys = k) :
    ownRun k s = some b.fdKeys := hk ▸ h.2

/-- `os'` is `os` after some calls that respect the discipline -/
def Reach (os os' : Os) : Prop := ∃ seg, Tr os os' seg

theorem Tr.reach {a b : Os} {s : List Ev} (h : Tr a b s) : Reach a b := ⟨s, h⟩

theorem Reach.refl (os : Os) : Reach os os := ⟨[], Tr.refl os⟩

theorem Reach.trans {a b c : Os} (h1 : Reach a b) (h2 : Reach b c) : Reach a c :=
  let ⟨_, t1⟩ := h1; let ⟨_, t2⟩ := h2; ⟨_, t1.trans t2⟩

theorem fdKeys_def (os : Os) : os.fdKeys = os.fds.map (·.1) := rfl

theorem Os.fdKeys_eq {a b : Os} (h : a.fds = b.fds) : a.fdKeys = b.fdKeys := by
  rw [fdKeys_def, h]; rfl

theorem Os.fdKeys_cons {a b : Os} {fd : Fd} {p : Path} (h : a.fds = (fd, p) :: b.fds) : a.fdKeys = fd :: b.fdKeys := by
  rw [fdKeys_def, h]; rfl

theorem Os.fdKeys_filter {a b : Os} {fd : Fd} (h : a.fds = b.fds.filter (fun e => e.1 ≠ fd)) :
    a.fdKeys = b.fdKeys.filter (· ≠ fd) := by
  rw [fdKeys_def, h, fdKeys_def, List.filter_map]; rfl

theorem mem_of_keys_singleton {os : Os} {fd : Fd} (h : os.fdKeys = [fd]) : fd ∈ os.fdKeys := by simp [h]

/-! ## system calls -/

theorem Tr.single {os os' : Os} {e : Ev} (hl : os'.log = os.log ++ [e]) (ho : ownStep os.fdKeys e = some os'.fdKeys) :
    Tr os os' [e] := ⟨hl, by simp [ownRun, ho]⟩

theorem tr_open_none {os os' : Os} {p : Path} (h : sysOpen os p = (os', none)) :
    Tr os os' [.open p none] ∧ os'.fds = os.fds := by
  obtain ⟨hl, hf, _⟩ := sysOpen_none h
  exact ⟨Tr.single hl (by rw [Os.fdKeys_eq hf]; rfl), hf⟩

theorem tr_open_some {os os' : Os} {p : Path} {fd : Fd} (h : sysOpen os p = (os', some fd)) :
    Tr os os' [.open p (some fd)] ∧ os'.fds = (fd, p) :: os.fds ∧ fd ∉ os.fdKeys := by
  obtain ⟨hl, hf, hn, _⟩ := sysOpen_some h
  exact ⟨Tr.single hl (by rw [Os.fdKeys_cons hf]; simp [ownStep, hn]), hf, hn⟩

theorem tr_flock (os : Os) (fd : Fd) (h : fd ∈ os.fdKeys) :
    let a := sysFlock os fd
    Tr os a.1 [.flock fd a.2] ∧ a.1.fds = os.fds := by
  obtain ⟨hl, hf, _⟩ := sysFlock_spec os fd
  exact ⟨Tr.single hl (by rw [Os.fdKeys_eq hf]; simp [ownStep, h]), hf⟩

theorem tr_close (os : Os) (fd : Fd) (h : fd ∈ os.fdKeys) :
    let a := sysClose os fd
    Tr os a.1 [.close fd a.2] ∧ a.1.fds = os.fds.filter (fun e => e.1 ≠ fd) := by
  obtain ⟨hl, hf, _⟩ := sysClose_spec os fd
  exact ⟨Tr.single hl (by rw [Os.fdKeys_filter hf]; simp [ownStep, h]), hf⟩

theorem tr_mkdir (os : Os) (p : Path) :
    let a := sysMkdir os p
    Tr os a.1 [.mkdir p a.2] ∧ a.1.fds = os.fds := by
  obtain ⟨hl, hf, _⟩ := sysMkdir_spec os p
  exact ⟨Tr.single hl (by rw [Os.fdKeys_eq hf]; rfl), hf⟩

theorem tr_unlink (os : Os) (p : Path) : Tr os (sysUnlink os p) [.unlink p] ∧ (sysUnlink os p).fds = os.fds := by
  obtain ⟨hl, hf⟩ := sysUnlink_spec os p
  exact ⟨Tr.single hl (by rw [Os.fdKeys_eq hf]; rfl), hf⟩

/-! ## stretches of writes, and `platform.c` -/

/-- `os'` is `os` after some `pwrite`s on `fd` and nothing else; with `ok`, none of them failed and
    no `file_write` reported failure -/
def Wrote (fd : Fd) (os os' : Os) (ok : Bool) : Prop :=
  ∃ seg, os'.log = os.log ++ seg ∧ os'.fds = os.fds ∧ PwOn fd seg ∧
    (ok = true → NoFail seg ∧ os'.wfails = os.wfails)

theorem Wrote.refl (fd : Fd) (os : Os) : Wrote fd os os true :=
  ⟨[], by simp, rfl, PwOn.nil fd, fun _ => ⟨NoFail.nil, rfl⟩⟩

theorem Wrote.trans {fd : Fd} {a b c : Os} {ok : Bool} (h1 : Wrote fd a b true) (h2 : Wrote fd b c ok) :
    Wrote fd a c ok := by
  obtain ⟨s, l1, f1, p1, k1⟩ := h1
  obtain ⟨t, l2, f2, p2, k2⟩ := h2
  refine ⟨s ++ t, by rw [l2, l1, List.append_assoc], f2.trans f1, p1.append p2, fun h => ?_⟩
  exact ⟨(k1 rfl).1.append (k2 h).1, (k2 h).2.trans (k1 rfl).2⟩

theorem Wrote.log {fd : Fd} {os os' : Os} {ok : Bool} (h : Wrote fd os os' ok) : os.log <+: os'.log :=
  let ⟨seg, hl, _⟩ := h; ⟨seg, hl.symm⟩

/-- writes on a descriptor that is open are disciplined -/
theorem Wrote.reach {fd : Fd} {os os' : Os} {ok : Bool} (h : Wrote fd os os' ok) (hm : fd ∈ os.fdKeys) :
    Reach os os' ∧ os'.fds = os.fds :=
  let ⟨seg, hl, hf, hp, _⟩ := h; ⟨⟨seg, hl, by rw [Os.fdKeys_eq hf]; exact ownRun_pwrites hm hp⟩, hf⟩

theorem fileWrite_pw {os os' : Os} {fd off : Nat} {buf : Bytes} {ok : Bool} (h : fileWrite os fd off buf = (os', ok)) :
    Wrote fd os os' ok := by
  obtain ⟨seg, hl, hf, hpw, hnf, _⟩ := fileWrite_log os fd off buf
  have hw := fileWrite_wfails os fd off buf
  rw [h] at hl hf hnf hw
  exact ⟨seg, hl, hf, hpw, fun hok => ⟨hnf hok, by simpa [hok] using hw⟩⟩

theorem fileWrite_tr (os : Os) (fd off : Nat) (buf : Bytes) (hk : os.fdKeys = [fd]) :
    Reach os (fileWrite os fd off buf).1 ∧ (fileWrite os fd off buf).1.fdKeys = [fd] := by
  have hw : Wrote fd os (fileWrite os fd off buf).1 _ := fileWrite_pw rfl
  obtain ⟨hr, hf⟩ := hw.reach (mem_of_keys_singleton hk)
  exact ⟨hr, (Os.fdKeys_eq hf).trans hk⟩

theorem fileClose_tr (os : Os) (fd : Fd) (hk : os.fdKeys = [fd]) :
    Reach os (fileClose os fd) ∧ (fileClose os fd).fdKeys = [] := by
  obtain ⟨ht, hf⟩ := tr_close os fd (mem_of_keys_singleton hk)
  exact ⟨ht.reach, by rw [fileClose, Os.fdKeys_filter hf, hk]; simp⟩

/-- opening a fresh descriptor and closing it again restores the table -/
theorem filter_cons_fresh {fds : List (Fd × Path)} {fd : Fd} (p : Path) (hn : fd ∉ fds.map (·.1)) :
    ((fd, p) :: fds).filter (fun e => e.1 ≠ fd) = fds := by
  rw [List.filter_cons_of_neg (by simp), List.filter_eq_self]
  intro e he
  simpa using fun (heq : e.1 = fd) => hn (heq ▸ List.mem_map_of_mem (f := (·.1)) he)

/-- `file_create`: either it fails having released whatever it opened, or it returns a
    fresh descriptor for `p` -/
theorem fileCreate_tr (os : Os) (p : Path) :
    (∃ os' res rest, fileCreate os p = (os', none) ∧ Tr os os' (.open p res :: rest) ∧ os'.fds = os.fds) ∨
    (∃ os' fd, fileCreate os p = (os', some fd) ∧ Tr os os' [.open p (some fd), .flock fd true] ∧
      os'.fds = (fd, p) :: os.fds ∧ os'.files = setFile os.files p (os.content p)) := by
  unfold fileCreate
  split
  next os1 ho =>
    obtain ⟨ht, hf⟩ := tr_open_none ho
    exact .inl ⟨os1, _, _, rfl, ht, hf⟩
  next os1 fd ho =>
    obtain ⟨ht, hf, hn⟩ := tr_open_some ho
    obtain ⟨ht2, hf2⟩ := tr_flock os1 fd (by simp [Os.fdKeys_cons hf])
    split
    next os2 hfl =>
      rw [hfl] at ht2 hf2
      refine .inr ⟨os2, fd, rfl, ht.trans ht2, hf2.trans hf, ?_⟩
      rw [← (sysOpen_some ho).2.2.2, ← (sysFlock_spec os1 fd).2.2, hfl]
    next os2 hfl =>
      rw [hfl] at ht2 hf2
      obtain ⟨ht3, hf3⟩ := tr_close os2 fd (by simp [Os.fdKeys_eq hf2, Os.fdKeys_cons hf])
      refine .inl ⟨_, _, _, rfl, (ht.trans ht2).trans ht3, ?_⟩
      rw [hf3, hf2, hf]; exact filter_cons_fresh p hn

/-- `file_is_writable`: probes with create–close–unlink, leaves the descriptor table as it was -/
theorem fileIsWritable_tr (os : Os) (p : Path) :
    let a := fileIsWritable os p
    ∃ seg, Tr os a.1 seg ∧ a.1.fds = os.fds ∧ NoIo seg := by
  unfold fileIsWritable
  split
  · exact ⟨[], Tr.refl os, rfl, NoIo.nil⟩
  · split
    next os1 ho =>
      obtain ⟨ht, hf⟩ := tr_open_none ho
      exact ⟨_, ht, hf, by simp [NoIo, Ev.isPwrite, Ev.isFlock]⟩
    next os1 fd ho =>
      obtain ⟨ht, hf, hn⟩ := tr_open_some ho
      obtain ⟨ht2, hf2⟩ := tr_close os1 fd (by simp [Os.fdKeys_cons hf])
      obtain ⟨ht3, hf3⟩ := tr_unlink (sysClose os1 fd).1 p
      refine ⟨_, (ht.trans ht2).trans ht3, ?_, by simp [NoIo, Ev.isPwrite, Ev.isFlock]⟩
      rw [hf3, hf2, hf]
      exact filter_cons_fresh p hn

end AcqVerif.Storage
