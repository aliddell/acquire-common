import AcqVerif.SProps.DimsCopy
/-!
# Every API function but `copy` as a `Step` of its target object

`set_uri` and `set_external_metadata` are `setStr` with a caller argument: `setStr_arg`.
-/
namespace AcqVerif.SProps

/-! ### the setters -/

theorem setAccessKeyAndSecret_step {h : Heap} {o : Obj} {a b : InStr} (hok : HeapOK h) (ok : ObjOK h o) (ow : Owns h o)
    (wa : a.wf = true) (wb : b.wf = true) :
    Step h o (setAccessKeyAndSecret h o a b).1 (setAccessKeyAndSecret h o a b).2.1 := by
  obtain ⟨r1, s1⟩ := setStr_arg .akey hok ok ow wa
  unfold setAccessKeyAndSecret
  simp only [r1, if_true]
  exact s1.trans (setStr_arg .skey s1.hok s1.ok (s1.owns ow) wb).2

theorem setEnableMultiscale_step {h : Heap} {o : Obj} (v : Nat) (hok : HeapOK h) (ok : ObjOK h o) :
    Step h o (setEnableMultiscale h o v).1 (setEnableMultiscale h o v).2.1 :=
  ⟨hok, ⟨ok.uri, ok.mdata, ok.akey, ok.skey, ok.dims⟩, fun _ => rfl, fun _ _ _ => rfl, Nat.le_refl _⟩

/-- storing a borrowed, terminated string over a field that owns nothing -/
theorem ref_step {h : Heap} {o : Obj} (f : Field) (b : List Byte) (hok : HeapOK h) (ok : ObjOK h o) (ow : Owns h o)
    (ht : terminated b = true) (hn : (o.get f).isRef = true ∨ (o.get f).str = .null) :
    Step h o h (o.set f { str := .ext b, nbytes := b.length, isRef := true }) := by
  refine Step_of_field ow ⟨hok, ?_, fun k => by rw [strCount_unowned hn.symm k, strCount_unowned (.inr rfl) k],
    fun _ _ _ => rfl, Nat.le_refl _⟩ ok
  unfold terminated at ht
  rw [List.getLast?_eq_getElem?] at ht
  have : 1 ≤ b.length := by
    cases b with
    | nil => simp at ht
    | cons _ _ => simp
  exact ⟨rfl, this, rfl, by simpa using ht⟩

/-! ### `storage_properties_init` -/

theorem init_step {h : Heap} (ffid : Nat) {uri mdata : InStr} (px py nd : Nat) (hok : HeapOK h)
    (wu : uri.wf = true) (wm : mdata.wf = true) :
    Step h {} (init h ffid uri mdata px py nd).1 (init h ffid uri mdata px py nd).2.1 := by
  have ow0 : Owns h {} := fun k => by rw [objCount_default]; omega
  obtain ⟨r1, s1⟩ := setStr_arg (o := {}) .uri hok (ObjOK_default h) ow0 wu
  unfold init
  have e1 : setUri h {} uri = setStr h {} .uri uri.toStr := rfl
  simp only [e1, r1, Bool.not_true, Bool.false_eq_true, if_false]
  obtain ⟨r2, s2⟩ := setStr_arg .mdata s1.hok s1.ok (s1.owns ow0) wm
  have e2 : ∀ hh oo, setExternalMetadata hh oo mdata = setStr hh oo .mdata mdata.toStr := fun _ _ => rfl
  simp only [e2, r2, Bool.not_true, Bool.false_eq_true, if_false]
  have s12 := s1.trans s2
  generalize (setStr (setStr h {} .uri uri.toStr).1 (setStr h {} .uri uri.toStr).2.1 .mdata mdata.toStr) = r at *
  -- scalar assignments do not change what is owned
  have s3 : Step h {} r.1 { r.2.1 with firstFrameId := ffid, pxX := px, pxY := py } :=
    ⟨s12.hok, ⟨s12.ok.uri, s12.ok.mdata, s12.ok.akey, s12.ok.skey, s12.ok.dims⟩, s12.bal, s12.frame, s12.mono⟩
  by_cases hnd : nd > 0
  · simp only [hnd, if_true]
    exact s3.trans (dimensionsInit_step nd s3.hok s3.ok (s3.owns ow0))
  · simp only [hnd, if_false]
    exact s3

/-! ### `storage_properties_destroy` -/

theorem destroyStr_step {h : Heap} {o : Obj} (f : Field) (hok : HeapOK h) (ok : ObjOK h o) (ow : Owns h o) :
    Step h o (destroyStr h o f).1 (destroyStr h o f).2 ∧
    ∀ g k, strCount ((destroyStr h o f).2.get g) k = if g = f then 0 else strCount (o.get g) k := by
  have ss := freeStr_spec hok (ok.get f) (ow.field f)
  unfold destroyStr
  by_cases hc : (o.get f).isRef = false ∧ (o.get f).str ≠ .null
  · simp only [if_pos hc] at ss ⊢
    refine ⟨Step_of_field ow ss ok, fun g k => ?_⟩
    rw [get_set]
    split <;> rfl
  · simp only [if_neg hc] at ss ⊢
    refine ⟨Step.refl hok ok, fun g k => ?_⟩
    split
    · next hg => have := ss.bal k; rw [strCount_default, ← hg] at this; omega
    · rfl

theorem strsCount_eq_zero {o : Obj} {k : Nat} (hz : ∀ f, strCount (o.get f) k = 0) : strsCount o k = 0 := by
  have := hz .uri; have := hz .mdata; have := hz .akey; have := hz .skey
  simp only [Obj.get] at *
  unfold strsCount; omega

theorem destroy_step {h : Heap} {o : Obj} (hok : HeapOK h) (ok : ObjOK h o) (ow : Owns h o) :
    Step h o (destroy h o).1 (destroy h o).2 ∧ ∀ k hh, objCount hh (destroy h o).2 k = 0 := by
  obtain ⟨s1, z1⟩ := destroyStr_step .uri hok ok ow
  obtain ⟨s2, z2⟩ := destroyStr_step .mdata s1.hok s1.ok (s1.owns ow)
  have s12 := s1.trans s2
  generalize hr2 : destroyStr (destroyStr h o .uri).1 (destroyStr h o .uri).2 .mdata = r2 at *
  obtain ⟨s3, z3⟩ := destroyStr_step .akey s12.hok s12.ok (s12.owns ow)
  have s13 := s12.trans s3
  generalize hr3 : destroyStr r2.1 r2.2 .akey = r3 at *
  obtain ⟨s4, z4⟩ := destroyStr_step .skey s13.hok s13.ok (s13.owns ow)
  have s14 := s13.trans s4
  generalize hr4 : destroyStr r3.1 r3.2 .skey = r4 at *
  -- each call zeroes its field's count and keeps the counts of the other fields
  have hstr : ∀ k, strsCount r4.2 k = 0 := fun k => strsCount_eq_zero fun f => by
    cases f <;> simp [z4, z3, z2, z1]
  have e : destroy h o = dimensionsDestroy r4.1 r4.2 := by
    unfold destroy
    simp only [hr2, hr3, hr4]
  rw [e]
  obtain ⟨s5, e5, _⟩ := dimensionsDestroy_step s14.hok s14.ok (s14.owns ow)
  refine ⟨s14.trans s5, fun k hh => ?_⟩
  rw [e5]
  unfold objCount
  rw [strsCount_with_dims, hstr k, dimsCount_none rfl]

end AcqVerif.SProps
