import AcqVerif.SProps.CopyString
/-!
# What one call does to the object it is applied to (`Step`) — strings

`Step h o h' o'`: the heap stays well-formed, the object stays well-formed, the change of what
the object owns equals the change of what is live (`bal`), and no block outside the object's
footprint is touched (`frame`).
-/
namespace AcqVerif.SProps

structure Step (h : Heap) (o : Obj) (h' : Heap) (o' : Obj) : Prop where
  hok : HeapOK h'
  ok : ObjOK h' o'
  bal : ∀ k, objCount h' o' k + b2n (h.live k) = objCount h o k + b2n (h'.live k)
  frame : ∀ k, k < h.next → objCount h o k = 0 → h'.cells k = h.cells k
  mono : h.next ≤ h'.next

theorem Owns.live {h : Heap} {o : Obj} (ow : Owns h o) {k : Nat} (hk : 0 < objCount h o k) : h.live k = true :=
  of_pos_le_b2n hk (ow k)

theorem Owns.lt {h : Heap} {o : Obj} (ow : Owns h o) {k : Nat} (hk : 0 < objCount h o k) : k < h.next :=
  live_lt (ow.live hk)

theorem Owns.one {h : Heap} {o : Obj} (ow : Owns h o) (k : Nat) : objCount h o k ≤ 1 :=
  Nat.le_trans (ow k) (b2n_le_one _)

theorem Owns.field {h : Heap} {o : Obj} (ow : Owns h o) (f : Field) (k : Nat) : strCount (o.get f) k ≤ b2n (h.live k) := by
  have := strCount_get_le o f k
  have := ow k
  unfold objCount at this; omega

theorem Step.refl {h : Heap} {o : Obj} (hok : HeapOK h) (ok : ObjOK h o) : Step h o h o :=
  ⟨hok, ok, fun _ => rfl, fun _ _ _ => rfl, Nat.le_refl _⟩

theorem Step.owns {h h' : Heap} {o o' : Obj} (st : Step h o h' o') (ow : Owns h o) : Owns h' o' := by
  intro k
  have := st.bal k
  have := ow k
  have := b2n_le_one (h.live k)
  omega

theorem Step.trans {h h' h'' : Heap} {o o' o'' : Obj} (s1 : Step h o h' o') (s2 : Step h' o' h'' o'') :
    Step h o h'' o'' := by
  refine ⟨s2.hok, s2.ok, ?_, ?_, Nat.le_trans s1.mono s2.mono⟩
  · intro k
    have := s1.bal k
    have := s2.bal k
    omega
  · intro k hk hz
    have e1 := s1.frame k hk hz
    have hb := s1.bal k
    rw [live_congr e1 hk s1.mono] at hb
    rw [s2.frame k (Nat.lt_of_lt_of_le hk s1.mono) (by omega), e1]

/-- replace the object by one that owns the same blocks -/
theorem Step.of_count_eq {h h' : Heap} {o o0 o' : Obj} (st : Step h o0 h' o') (e : ∀ k, objCount h o k = objCount h o0 k) :
    Step h o h' o' :=
  ⟨st.hok, st.ok, fun k => by rw [e k]; exact st.bal k, fun k hk hz => st.frame k hk (by rw [← e k]; exact hz), st.mono⟩

theorem strCount_get_add_le (o : Obj) {f g : Field} (hfg : f ≠ g) (k : Nat) :
    strCount (o.get f) k + strCount (o.get g) k ≤ strsCount o k := by
  cases f <;> cases g <;> simp [Obj.get, strsCount] at hfg ⊢ <;> omega

/-! ### a change confined to the slot of field `f` -/

section
variable {h h' : Heap} {o : Obj} {f : Field} {d' : Str} (ow : Owns h o) (ss : SStep h (o.get f) h' d')
include ow ss

/-- the other fields' blocks are untouched -/
theorem SStep.cells_of_field {g : Field} (hg : g ≠ f) {k : Nat} (hk : 0 < strCount (o.get g) k) :
    h'.cells k = h.cells k := by
  have := strCount_get_add_le o hg k
  have := ow.one k
  exact ss.frame k (ow.lt (objCount_pos_of_field hk h)) (by unfold objCount at *; omega)

/-- the dimension array and its names are untouched -/
theorem SStep.cells_of_dims {k : Nat} (hk : 0 < dimsCount h o k) : h'.cells k = h.cells k := by
  have := strCount_get_le o f k
  have := ow.one k
  exact ss.frame k (ow.lt (objCount_pos_of_dims hk)) (by unfold objCount at *; omega)

theorem Step_of_field (ok : ObjOK h o) : Step h o h' (o.set f d') := by
  refine ⟨ss.hok, ?_, ?_, ?_, ss.mono⟩
  · apply ObjOK_of_fields
    · intro g
      rw [get_set]
      split
      · exact ss.sok
      · next hg => exact StrOK_congr (ok.get g) fun k hk => ss.cells_of_field ow hg hk
    · rw [DimsOK_set]
      exact DimsOK_congr ok.dims fun k hk => ss.cells_of_dims ow hk
  · intro k
    have := strsCount_set o f d' k
    have := ss.bal k
    unfold objCount
    rw [dimsCount_set, dimsCount_congr (fun k hk => ss.cells_of_dims ow hk) k]
    omega
  · intro k hk hz
    apply ss.frame k hk
    have := strCount_get_le o f k
    unfold objCount at hz; omega

end

/-! ### `copy_string` into a field -/

section
variable {h : Heap} {o : Obj} (f : Field) {src : Str} (hok : HeapOK h) (ok : ObjOK h o) (ow : Owns h o)
  (sok : SrcOK h src) (na : ∀ k, src.str = .heap k → objCount h o k = 0)
include hok ok ow sok na

theorem setStr_cspec :
    CSpec h (o.get f) (strVal h src) (setStr h o f src).1 (copyString h (o.get f) src).2.1 := by
  refine (copyString_spec hok (ok.get f) (ow.field f) sok fun k hk e => ?_).2
  have := (ok.get f).heap_count e
  have := na k hk
  have := strCount_get_le o f k
  unfold objCount at *; omega

/-- the same with what a sequence of such calls needs: the field now holds the source's value and the
other fields' values are what they were -/
theorem setStr_link :
    (setStr h o f src).2.2 = true ∧
    Step h o (setStr h o f src).1 (setStr h o f src).2.1 ∧
    strVal (setStr h o f src).1 ((setStr h o f src).2.1.get f) = term (strVal h src) ∧
    (∀ g, g ≠ f → (setStr h o f src).2.1.get g = o.get g ∧
      strVal (setStr h o f src).1 (o.get g) = strVal h (o.get g)) := by
  have cs := setStr_cspec f hok ok ow sok na
  have hset : (setStr h o f src).2.1 = o.set f (copyString h (o.get f) src).2.1 := rfl
  refine ⟨rfl, Step_of_field ow cs.toSStep ok, ?_, fun g hg => ⟨?_, ?_⟩⟩
  · rw [hset, get_set, if_pos rfl]; exact cs.val
  · rw [hset, get_set, if_neg hg]
  · exact strVal_congr_ok (ok.get g) fun k hk => cs.toSStep.cells_of_field ow hg hk

end

/-- `copy_string(&o-><f>, src)` for a source that `o` does not own -/
theorem setStr_step {h : Heap} {o : Obj} (f : Field) {src : Str} (hok : HeapOK h) (ok : ObjOK h o) (ow : Owns h o)
    (sok : SrcOK h src) (na : ∀ k, src.str = .heap k → objCount h o k = 0) :
    (setStr h o f src).2.2 = true ∧
    Step h o (setStr h o f src).1 (setStr h o f src).2.1 ∧
    (∃ d', (setStr h o f src).2.1 = o.set f d' ∧ strVal (setStr h o f src).1 d' = term (strVal h src) ∧
           d'.isRef = false ∧ d'.str ≠ .null) := by
  have cs := setStr_cspec f hok ok ow sok na
  exact ⟨rfl, Step_of_field ow cs.toSStep ok, _, rfl, cs.val, cs.notRef, cs.notNull⟩

/-- a caller argument can always be read (`Op.wf`: the buffer is as long as stated) -/
theorem InStr.srcOK (h : Heap) {a : InStr} (wf : a.wf = true) : SrcOK h a.toStr := by
  unfold InStr.wf at wf; unfold SrcOK InStr.toStr
  cases hp : a.ptr with
  | none => simp
  | some b => simp [hp] at wf ⊢; omega

theorem InStr.not_heap (a : InStr) (k : Nat) : a.toStr.str ≠ .heap k := by
  unfold InStr.toStr; cases a.ptr <;> simp

/-- `copy_string(&o-><f>, &s)` for a caller argument -/
theorem setStr_arg {h : Heap} {o : Obj} (f : Field) {a : InStr} (hok : HeapOK h) (ok : ObjOK h o) (ow : Owns h o)
    (wf : a.wf = true) :
    (setStr h o f a.toStr).2.2 = true ∧ Step h o (setStr h o f a.toStr).1 (setStr h o f a.toStr).2.1 :=
  have st := setStr_step f hok ok ow (InStr.srcOK h wf) fun k hk => absurd hk (InStr.not_heap a k)
  ⟨st.1, st.2.1⟩

end AcqVerif.SProps
