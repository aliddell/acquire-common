import AcqVerif.SProps.Step
/-!
# The dimension array: element updates (`AStep`), `dimensions_destroy`, `dimensions_init`
-/
namespace AcqVerif.SProps

/-- a change confined to the dimension array of `o` and the names it owns -/
structure AStep (h : Heap) (o : Obj) (h' : Heap) : Prop where
  st : Step h o h' o
  strs : ∀ k, 0 < strsCount o k → h'.cells k = h.cells k

theorem AStep.refl {h : Heap} {o : Obj} (hok : HeapOK h) (ok : ObjOK h o) : AStep h o h :=
  ⟨Step.refl hok ok, fun _ _ => rfl⟩

theorem AStep.trans {h h' h'' : Heap} {o : Obj} (s1 : AStep h o h') (s2 : AStep h' o h'') : AStep h o h'' :=
  ⟨s1.st.trans s2.st, fun k hk => by rw [s2.strs k hk, s1.strs k hk]⟩

/-- what an object that owns the array in block `d` knows about it -/
structure DPre (h : Heap) (d : Nat) : Prop where
  live : h.live d = true
  names : ∀ dm ∈ h.dimsOf d, StrOK h dm.name
  owns : ∀ k, (if d = k then 1 else 0) + namesCount (h.dimsOf d) k ≤ b2n (h.live k)

theorem DPre_of_obj {h : Heap} {o : Obj} {d : Nat} (hd : o.dimsData = some d) (ok : ObjOK h o) (ow : Owns h o) :
    DPre h d := by
  refine ⟨ow.live (k := d) ?_, ((DimsOK_some hd).mp ok.dims).2.2, fun k => ?_⟩
  · exact objCount_pos_of_dims (dimsCount_data hd h)
  · have := ow k; unfold objCount at this; rw [dimsCount_some hd] at this; omega

theorem DPre.one {h : Heap} {d : Nat} (pre : DPre h d) (k : Nat) :
    (if d = k then 1 else 0) + namesCount (h.dimsOf d) k ≤ 1 := Nat.le_trans (pre.owns k) (b2n_le_one _)

theorem DPre.names_d {h : Heap} {d : Nat} (pre : DPre h d) : namesCount (h.dimsOf d) d = 0 := by
  have := pre.one d; simp at this; omega

theorem DPre.lt {h : Heap} {d : Nat} (pre : DPre h d) {k : Nat} (hk : 0 < namesCount (h.dimsOf d) k) : k < h.next :=
  live_lt (of_pos_le_b2n (Nat.lt_of_lt_of_le hk (Nat.le_add_left _ _)) (pre.owns k))

section
variable {h : Heap} {o : Obj} {d : Nat} (hd : o.dimsData = some d) (hok : HeapOK h) (ok : ObjOK h o) (ow : Owns h o)
include hd hok ok ow

omit hok in
/-- `data[i] = x`, after a change (`h ↦ h1`) of the slot of that element's name into `x.name`; the
blocks of the other elements' names are untouched, and so is that of `x.name` by the store -/
theorem AStep_store {h1 : Heap} {i : Nat} {x : Dim} (hi : i < (h.dimsOf d).length)
    (ss : SStep h (h.dimsOf d)[i].name h1 x.name) :
    AStep h o (h1.storeDim (some d) i x) ∧
    (h1.storeDim (some d) i x).dimsOf d = (h.dimsOf d).set i x ∧
    (∀ k, 0 < strCount x.name k → (h1.storeDim (some d) i x).cells k = h1.cells k) ∧
    (∀ j (hj : j < (h.dimsOf d).length), i ≠ j → ∀ k, 0 < strCount (h.dimsOf d)[j].name k →
      (h1.storeDim (some d) i x).cells k = h.cells k) := by
  have pre := DPre_of_obj hd ok ow
  have hdlt : d < h.next := live_lt pre.live
  have hle : ∀ k, strCount (h.dimsOf d)[i].name k ≤ namesCount (h.dimsOf d) k :=
    fun k => namesCount_mem_le _ _ (List.getElem_mem hi) k
  have hid : strCount (h.dimsOf d)[i].name d = 0 := by
    have := hle d; have := pre.names_d; omega
  have hd1 : h1.cells d = h.cells d := ss.frame d hdlt hid
  have hl1 : h1.live d = true := by rw [live_congr hd1 hdlt ss.mono]; exact pre.live
  have hfr1 : (false : Bool) = (h1.cells d).freed := ((live_iff _ _).mp hl1).2.symm
  have hxk : ∀ k, 0 < strCount x.name k → k ≠ d := by
    intro k hk e
    have := ss.bal d
    rw [hid, pre.live, hl1] at this
    rw [e] at hk; omega
  rw [storeDim_some hl1 i x (by rw [dimsOf_congr hd1]; exact hi), dimsOf_congr hd1]
  -- another element's name lives in a block that is neither `d` nor owned by element `i`
  have oth : ∀ j (hj : j < (h.dimsOf d).length), i ≠ j → ∀ k, 0 < strCount (h.dimsOf d)[j].name k →
      (h1.setCell d ⟨.dims ((h.dimsOf d).set i x), false⟩).cells k = h.cells k := by
    intro j hj hij k hk
    have := namesCount_mem_le (h.dimsOf d) _ (List.getElem_mem hj) k
    have := namesCount_two (h.dimsOf d) hi hj hij k
    have := pre.one k
    have hkd : k ≠ d := by intro e; subst e; have := pre.names_d; omega
    rw [setCell_cells_ne _ _ _ _ hkd]
    exact ss.frame k (pre.lt (by omega)) (by omega)
  -- a block that element `i` does not own and that is not `d` is untouched
  have out : ∀ k, k < h.next → (if d = k then 1 else 0) + namesCount (h.dimsOf d) k = 0 →
      (h1.setCell d ⟨.dims ((h.dimsOf d).set i x), false⟩).cells k = h.cells k := by
    intro k hk hz
    have := hle k
    rw [setCell_cells_ne _ _ _ _ (fun e => by simp [e] at hz)]
    exact ss.frame k hk (by omega)
  have strs : ∀ k, 0 < strsCount o k → (h1.setCell d ⟨.dims ((h.dimsOf d).set i x), false⟩).cells k = h.cells k := by
    intro k hk
    have := ow.one k
    unfold objCount at this; rw [dimsCount_some hd] at this
    exact out k (ow.lt (objCount_pos_of_strs hk h)) (by omega)
  refine ⟨⟨⟨HeapOK_setCell ss.hok _ _ hfr1, ObjOK_of_fields (fun g => ?_) ?_, fun k => ?_, fun k hk hz => ?_, ss.mono⟩, strs⟩,
    by simp, fun k hk => setCell_cells_ne _ _ _ _ (hxk k hk), oth⟩
  · exact StrOK_congr (ok.get g) fun k hk => strs k (Nat.lt_of_lt_of_le hk (strCount_get_le o g k))
  · have h0 := (DimsOK_some hd).mp ok.dims
    refine (DimsOK_some hd).mpr ⟨h0.1, by simpa using h0.2.1, fun dm hdm => ?_⟩
    rw [dimsOf_setCell_same] at hdm
    obtain ⟨j, hj, rfl⟩ := List.getElem_of_mem hdm
    rw [List.getElem_set]
    split
    · exact StrOK_congr ss.sok fun k hk => setCell_cells_ne _ _ _ _ (hxk k hk)
    · next hij => exact StrOK_congr (pre.names _ (List.getElem_mem _)) (oth j (by simpa using hj) hij)
  · unfold objCount
    rw [dimsCount_some hd, dimsCount_some hd, dimsOf_setCell_same, setCell_live _ _ _ _ hfr1]
    have := namesCount_set (h.dimsOf d) i x k hi
    have := ss.bal k
    omega
  · unfold objCount at hz; rw [dimsCount_some hd] at hz
    exact out k hk (by omega)

/-! ### `storage_dimension_destroy` and the loop over it -/

theorem dimensionDestroy_spec {i : Nat} (hi : i < (h.dimsOf d).length) :
    AStep h o (dimensionDestroy h (some d) i) ∧
    (dimensionDestroy h (some d) i).dimsOf d = (h.dimsOf d).set i default := by
  have pre := DPre_of_obj hd ok ow
  have hmem := List.getElem_mem hi
  have ss := freeStr_spec hok (pre.names _ hmem) fun k => by
    have := namesCount_mem_le _ _ hmem k; have := pre.owns k; omega
  obtain ⟨a, b, _⟩ := AStep_store (x := default) hd ok ow hi ss
  unfold dimensionDestroy
  rw [loadDim_some pre.live i hi]
  exact ⟨a, b⟩

end

/-- the destroy loop: once it has passed them, elements `0 … i+k-1` are zeroed -/
theorem destroyLoop_spec {o : Obj} {d : Nat} (hd : o.dimsData = some d) (k : Nat) : ∀ (h : Heap) (i : Nat),
    HeapOK h → ObjOK h o → Owns h o → i + k ≤ (h.dimsOf d).length →
    (∀ j, j < i → (h.dimsOf d)[j]? = some default) →
    AStep h o (destroyLoop h (some d) i k) ∧
    ∀ j, j < i + k → ((destroyLoop h (some d) i k).dimsOf d)[j]? = some default := by
  induction k with
  | zero => intro h i hok ok _ _ hz; exact ⟨AStep.refl hok ok, hz⟩
  | succ k ih =>
    intro h i hok ok ow hik hz
    have hi : i < (h.dimsOf d).length := by omega
    obtain ⟨s1, e1⟩ := dimensionDestroy_spec hd hok ok ow hi
    obtain ⟨s2, e2⟩ := ih (dimensionDestroy h (some d) i) (i + 1) s1.st.hok s1.st.ok (s1.st.owns ow)
      (by rw [e1, List.length_set]; omega) fun j hj => by
        rw [e1, List.getElem?_set]
        split
        · simp
        · exact hz j (by omega)
    exact ⟨s1.trans s2, fun j hj => e2 j (by omega)⟩

/-- `storage_properties_dimensions_destroy` on an object without dimensions does nothing -/
theorem dimensionsDestroy_none {h : Heap} {o : Obj} (hd : o.dimsData = none) : dimensionsDestroy h o = (h, o) := by
  simp [dimensionsDestroy, hd]

/-- `storage_properties_dimensions_destroy`: afterwards the object has no dimensions; its strings are untouched -/
theorem dimensionsDestroy_step {h : Heap} {o : Obj} (hok : HeapOK h) (ok : ObjOK h o) (ow : Owns h o) :
    Step h o (dimensionsDestroy h o).1 (dimensionsDestroy h o).2 ∧
    (dimensionsDestroy h o).2 = { o with dimsData := none, dimsSize := 0 } ∧
    ∀ k, 0 < strsCount o k → (dimensionsDestroy h o).1.cells k = h.cells k := by
  cases hd : o.dimsData with
  | none =>
    rw [dimensionsDestroy_none hd]
    refine ⟨Step.refl hok ok, ?_, fun _ _ => rfl⟩
    have := (DimsOK_none hd).mp ok.dims
    cases o; simp_all
  | some d =>
    have hlen := ((DimsOK_some hd).mp ok.dims).2.1
    obtain ⟨⟨st, strs⟩, el⟩ := destroyLoop_spec hd o.dimsSize h 0 hok ok ow (by omega)
      fun j hj => absurd hj (Nat.not_lt_zero j)
    have e : dimensionsDestroy h o =
        ((destroyLoop h (some d) 0 o.dimsSize).free d, { o with dimsData := none, dimsSize := 0 }) := by
      simp [dimensionsDestroy, hd]
    rw [e]
    dsimp only
    generalize destroyLoop h (some d) 0 o.dimsSize = h1 at *
    -- after the loop every element is zeroed, so the array owns nothing but its block
    have hnc : ∀ k, namesCount (h1.dimsOf d) k = 0 := fun k => namesCount_eq_zero fun dm hdm => by
      obtain ⟨j, hj, rfl⟩ := List.getElem_of_mem hdm
      have := el j (by rw [((DimsOK_some hd).mp st.ok.dims).2.1] at hj; omega)
      rw [List.getElem?_eq_getElem hj, Option.some.injEq] at this
      rw [this]
      exact default_name_count k
    have hl1 : h1.live d = true := (st.owns ow).live (objCount_pos_of_dims (dimsCount_data hd h1))
    have hc1 : ∀ k, objCount h1 o k = strsCount o k + if d = k then 1 else 0 := fun k => by
      unfold objCount; rw [dimsCount_some hd, hnc k, Nat.add_zero]
    have hsd : ∀ k, 0 < strsCount o k → k ≠ d := by
      intro k hk e
      subst e
      have := (st.owns ow).one k
      rw [hc1 k] at this; simp at this; omega
    rw [free_live hl1]
    refine ⟨st.trans ?_, rfl, fun k hk => by rw [release_cells_ne _ _ _ (hsd k hk), strs k hk]⟩
    refine ⟨HeapOK_release st.hok _ hl1, ?_, fun k => ?_, fun k _ hz => ?_, Nat.le_refl _⟩
    · apply ObjOK_of_fields
      · intro g
        rw [get_with_dims]
        exact StrOK_congr (st.ok.get g) fun k hk =>
          release_cells_ne _ _ _ (hsd k (by have := strCount_get_le o g k; omega))
      · simp [DimsOK]
    · have e1 : objCount (h1.release d) { o with dimsData := none, dimsSize := 0 } k = strsCount o k := by
        simp [objCount, dimsCount, strsCount]
      rw [e1, hc1 k, release_bal hl1 k]; omega
    · rw [hc1 k] at hz
      exact release_cells_ne _ _ _ (fun e => by simp [e] at hz)

/-! ### `storage_properties_dimensions_init` -/

theorem dimensionsInit_eq {h : Heap} {o : Obj} {n : Nat} (hd : o.dimsData = none) (hn : n ≠ 0) :
    dimensionsInit h o n =
      ((h.malloc (.dims (List.replicate n default))).1, { o with dimsData := some h.next, dimsSize := n }, true) := by
  simp [dimensionsInit, hn, hd, dimensionArrayInit]

theorem dimensionsInit_step {h : Heap} {o : Obj} (n : Nat) (hok : HeapOK h) (ok : ObjOK h o) (ow : Owns h o) :
    Step h o (dimensionsInit h o n).1 (dimensionsInit h o n).2.1 := by
  by_cases hc : n ≠ 0 ∧ o.dimsData = none
  · rw [dimensionsInit_eq hc.2 hc.1]
    refine ⟨HeapOK_malloc hok _, ?_, fun k => ?_, fun k hk _ => malloc_cells_lt h _ k hk, Nat.le_succ _⟩
    · apply ObjOK_of_fields
      · intro g
        rw [get_with_dims]
        exact StrOK_congr (ok.get g) fun k hk => malloc_cells_lt h _ k (ow.lt (objCount_pos_of_field hk h))
      · simp only [DimsOK, dimsOf_malloc_new, List.length_replicate, true_and]
        refine ⟨by omega, fun dm hdm => ?_⟩
        rw [(List.mem_replicate.mp hdm).2]
        exact StrOK_default _
    · have e1 : objCount (h.malloc (.dims (List.replicate n default))).1
          { o with dimsData := some h.next, dimsSize := n } k = strsCount o k + if h.next = k then 1 else 0 := by
        simp only [objCount, dimsCount, strsCount, dimsOf_malloc_new, namesCount_replicate_default]
        omega
      have e2 : objCount h o k = strsCount o k := by unfold objCount; rw [dimsCount_none hc.2]; omega
      rw [e1, e2, malloc_bal]; omega
  · have e : dimensionsInit h o n = (h, o, false) := by
      unfold dimensionsInit
      by_cases h0 : n = 0
      · simp [h0]
      · simp [h0, show o.dimsData ≠ none from fun e => hc ⟨h0, e⟩]
    rw [e]
    exact Step.refl hok ok

end AcqVerif.SProps
