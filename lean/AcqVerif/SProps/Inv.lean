import AcqVerif.SProps.Heap
/-!
# Ownership counts, well-formed strings and objects

`objCount h o id` counts the fields of object `o` that *own* block `id` (a `String` with
`is_ref = 0` whose pointer is the block; the `acquisition_dimensions.data` pointer; the names of
the dimensions stored in that block).  The ownership invariant of a state is
`∀ id, Σ_objects objCount h o id = (1 if id is live else 0)`: every live block has exactly one
owning field in exactly one object and nothing owns a released block.
-/
namespace AcqVerif.SProps

/-- 1 iff `s` owns block `id` -/
def strCount (s : Str) (id : Nat) : Nat := if s.str = .heap id ∧ s.isRef = false then 1 else 0

def namesCount (l : List Dim) (id : Nat) : Nat := (l.map fun d => strCount d.name id).sum

def dimsCount (h : Heap) (o : Obj) (id : Nat) : Nat :=
  match o.dimsData with
  | none => 0
  | some d => (if d = id then 1 else 0) + namesCount (h.dimsOf d) id

def strsCount (o : Obj) (id : Nat) : Nat :=
  strCount o.uri id + strCount o.mdata id + strCount o.akey id + strCount o.skey id

def objCount (h : Heap) (o : Obj) (id : Nat) : Nat := strsCount o id + dimsCount h o id

/-- a stored string: NULL, or an owned block holding `nbytes ≥ 1` bytes ending in NUL, or a borrowed
terminated string -/
def StrOK (h : Heap) (s : Str) : Prop :=
  match s.str with
  | .null => s.isRef = false ∧ s.nbytes = 0
  | .heap id => s.isRef = false ∧ 1 ≤ s.nbytes ∧ s.nbytes ≤ (h.bytesOf id).length ∧ (h.bytesOf id)[s.nbytes - 1]? = some 0
  | .ext b => s.isRef = true ∧ 1 ≤ s.nbytes ∧ s.nbytes = b.length ∧ b[s.nbytes - 1]? = some 0

def DimsOK (h : Heap) (o : Obj) : Prop :=
  match o.dimsData with
  | none => o.dimsSize = 0
  | some d => 0 < o.dimsSize ∧ (h.dimsOf d).length = o.dimsSize ∧ ∀ dm ∈ h.dimsOf d, StrOK h dm.name

structure ObjOK (h : Heap) (o : Obj) : Prop where
  uri : StrOK h o.uri
  mdata : StrOK h o.mdata
  akey : StrOK h o.akey
  skey : StrOK h o.skey
  dims : DimsOK h o

/-- the object owns only live blocks, each at most once -/
def Owns (h : Heap) (o : Obj) : Prop := ∀ id, objCount h o id ≤ b2n (h.live id)

theorem b2n_le_one (b : Bool) : b2n b ≤ 1 := by cases b <;> simp [b2n]
@[simp] theorem b2n_true : b2n true = 1 := rfl
@[simp] theorem b2n_false : b2n false = 0 := rfl

theorem b2n_eq_one {b : Bool} : b2n b = 1 ↔ b = true := by cases b <;> simp [b2n]
theorem b2n_eq_zero {b : Bool} : b2n b = 0 ↔ b = false := by cases b <;> simp [b2n]

/-- whatever is owned is live -/
theorem of_pos_le_b2n {n : Nat} {b : Bool} (hn : 0 < n) (h : n ≤ b2n b) : b = true := by
  cases b
  · simp at h; omega
  · rfl

theorem strCount_le_one (s : Str) (id : Nat) : strCount s id ≤ 1 := by
  unfold strCount; split <;> omega

/-- a string whose block, if it owns one, is live -/
theorem strCount_le_live {h : Heap} {s : Str} {k : Nat} (hl : 0 < strCount s k → h.live k = true) :
    strCount s k ≤ b2n (h.live k) := by
  by_cases hk : 0 < strCount s k
  · rw [hl hk]; exact strCount_le_one s k
  · omega

@[simp] theorem strCount_default (id : Nat) : strCount {} id = 0 := by simp [strCount]

theorem default_name_count (k : Nat) : strCount (default : Dim).name k = 0 := strCount_default k

theorem strCount_eq_one {s : Str} {id : Nat} : strCount s id = 1 ↔ s.str = .heap id ∧ s.isRef = false := by
  unfold strCount; split <;> simp_all

theorem strCount_pos {s : Str} {id : Nat} (h : 0 < strCount s id) : s.str = .heap id ∧ s.isRef = false := by
  unfold strCount at h; split at h
  · assumption
  · omega

theorem strCount_owned {s : Str} {id : Nat} (hs : s.str = .heap id) (hr : s.isRef = false) (k : Nat) :
    strCount s k = if id = k then 1 else 0 := by
  simp [strCount, hs, hr]

/-- a NULL or borrowed string owns nothing -/
theorem strCount_unowned {s : Str} (hs : s.str = .null ∨ s.isRef = true) (k : Nat) : strCount s k = 0 := by
  rcases hs with hs | hs <;> simp [strCount, hs]

theorem strCount_ext {s : Str} {b : List Byte} (hr : s.str = .ext b) (k : Nat) : strCount s k = 0 := by
  simp [strCount, hr]

theorem StrOK_default (h : Heap) : StrOK h {} := by simp [StrOK]

/-- a stored string that is a heap pointer owns its block -/
theorem StrOK.heap_count {h : Heap} {s : Str} (ok : StrOK h s) {k : Nat} (hs : s.str = .heap k) : strCount s k = 1 := by
  unfold StrOK at ok; simp only [hs] at ok
  simp [strCount, hs, ok.1]

/-- a stored string owns nothing (it is NULL or borrowed) or exactly one block; the two cases are
the two branches of `if (!s->is_ref && s->str)` and of `if (!s->str || s->is_ref)` in the C code -/
theorem StrOK.owner {h : Heap} {s : Str} (ok : StrOK h s) :
    ((s.str = .null ∨ s.isRef = true) ∧ ∀ k, strCount s k = 0) ∨
    ∃ id, s.str = .heap id ∧ s.isRef = false ∧ ∀ k, strCount s k = if id = k then 1 else 0 := by
  unfold StrOK at ok
  split at ok
  · next hs => exact .inl ⟨.inl hs, strCount_unowned (.inl hs)⟩
  · next id hs => exact .inr ⟨id, hs, ok.1, strCount_owned hs ok.1⟩
  · next b hs => exact .inl ⟨.inr ok.1, strCount_unowned (.inr ok.1)⟩

/-! ### sums -/

theorem sum_set (l : List Nat) (i x : Nat) (h : i < l.length) : (l.set i x).sum + l[i] = l.sum + x := by
  induction l generalizing i with
  | nil => simp at h
  | cons a t ih =>
    cases i with
    | zero => simp; omega
    | succ j => simp at h ⊢; have := ih j h; omega

section
variable {α : Type} (l : List α) (f g : α → Nat) {i j : Nat}

theorem le_sum_map (hi : i < l.length) : f l[i] ≤ (l.map f).sum := by
  have := sum_set (l.map f) i 0 (by simpa using hi)
  simp at this; omega

theorem sum_map_two (hi : i < l.length) (hj : j < l.length) (hij : i ≠ j) : f l[i] + f l[j] ≤ (l.map f).sum := by
  have h1 := sum_set (l.map f) i 0 (by simpa using hi)
  have h2 := le_sum_map ((l.map f).set i 0) id (i := j) (by simpa using hj)
  simp [hij] at h1 h2
  omega

/-- replacing element `i`, and the summand by one that agrees with it on the other elements -/
theorem sum_map_set (x : α) (hi : i < l.length) (e : ∀ j (hj : j < l.length), j ≠ i → f l[j] = g l[j]) :
    ((l.set i x).map f).sum + g l[i] = (l.map g).sum + f x := by
  have : (l.set i x).map f = (l.map g).set i (f x) := by
    apply List.ext_getElem (by simp)
    intro j h1 h2
    simp only [List.getElem_map, List.getElem_set]
    split
    · rfl
    · next hij => exact e j (by simpa using h1) (Ne.symm hij)
  rw [this]
  have := sum_set (l.map g) i (f x) (by simpa using hi)
  simpa using this

end

theorem namesCount_set (l : List Dim) (i : Nat) (d : Dim) (id : Nat) (h : i < l.length) :
    namesCount (l.set i d) id + strCount l[i].name id = namesCount l id + strCount d.name id :=
  sum_map_set l _ _ d h fun _ _ _ => rfl

theorem namesCount_mem_le (l : List Dim) (d : Dim) (hd : d ∈ l) (id : Nat) : strCount d.name id ≤ namesCount l id := by
  obtain ⟨i, hi, rfl⟩ := List.getElem_of_mem hd
  exact le_sum_map l (fun d => strCount d.name id) hi

/-- two different elements of the array cannot both own block `k` more often than the array does -/
theorem namesCount_two (l : List Dim) {i j : Nat} (hi : i < l.length) (hj : j < l.length) (hij : i ≠ j) (k : Nat) :
    strCount l[i].name k + strCount l[j].name k ≤ namesCount l k :=
  sum_map_two l (fun d => strCount d.name k) hi hj hij

theorem namesCount_eq_zero {l : List Dim} {id : Nat} (h : ∀ d ∈ l, strCount d.name id = 0) : namesCount l id = 0 := by
  rw [namesCount, List.sum_eq_zero_iff_forall_eq_nat]
  intro x hx
  obtain ⟨d, hd, rfl⟩ := List.mem_map.mp hx
  exact h d hd

theorem namesCount_replicate_default (n id : Nat) : namesCount (List.replicate n (default : Dim)) id = 0 :=
  namesCount_eq_zero fun d hd => by rw [(List.mem_replicate.mp hd).2]; exact default_name_count id

/-! ### the dimension array of an object -/

theorem dimsCount_none {o : Obj} (hd : o.dimsData = none) (h : Heap) (k : Nat) : dimsCount h o k = 0 := by
  simp [dimsCount, hd]

theorem dimsCount_some {o : Obj} {d : Nat} (hd : o.dimsData = some d) (h : Heap) (k : Nat) :
    dimsCount h o k = (if d = k then 1 else 0) + namesCount (h.dimsOf d) k := by
  simp [dimsCount, hd]

theorem dimsCount_data {o : Obj} {d : Nat} (hd : o.dimsData = some d) (h : Heap) : 0 < dimsCount h o d := by
  rw [dimsCount_some hd]; simp; omega

theorem DimsOK_none {h : Heap} {o : Obj} (hd : o.dimsData = none) : DimsOK h o ↔ o.dimsSize = 0 := by
  simp [DimsOK, hd]

theorem DimsOK_some {h : Heap} {o : Obj} {d : Nat} (hd : o.dimsData = some d) :
    DimsOK h o ↔ 0 < o.dimsSize ∧ (h.dimsOf d).length = o.dimsSize ∧ ∀ dm ∈ h.dimsOf d, StrOK h dm.name := by
  simp [DimsOK, hd]

/-! ### fields -/

theorem get_set (o : Obj) (f g : Field) (s : Str) : (o.set f s).get g = if g = f then s else o.get g := by
  cases f <;> cases g <;> simp [Obj.set, Obj.get]

theorem strsCount_set (o : Obj) (f : Field) (s : Str) (id : Nat) :
    strsCount (o.set f s) id + strCount (o.get f) id = strsCount o id + strCount s id := by
  cases f <;> simp [Obj.set, Obj.get, strsCount] <;> omega

@[simp] theorem set_dimsData (o : Obj) (f : Field) (s : Str) : (o.set f s).dimsData = o.dimsData := by
  cases f <;> rfl
@[simp] theorem set_dimsSize (o : Obj) (f : Field) (s : Str) : (o.set f s).dimsSize = o.dimsSize := by
  cases f <;> rfl
@[simp] theorem set_firstFrameId (o : Obj) (f : Field) (s : Str) : (o.set f s).firstFrameId = o.firstFrameId := by
  cases f <;> rfl
@[simp] theorem set_pxX (o : Obj) (f : Field) (s : Str) : (o.set f s).pxX = o.pxX := by cases f <;> rfl
@[simp] theorem set_pxY (o : Obj) (f : Field) (s : Str) : (o.set f s).pxY = o.pxY := by cases f <;> rfl
@[simp] theorem set_multiscale (o : Obj) (f : Field) (s : Str) : (o.set f s).multiscale = o.multiscale := by
  cases f <;> rfl

theorem get_with_dims (o : Obj) (dd : Option Nat) (n : Nat) (f : Field) :
    ({ o with dimsData := dd, dimsSize := n } : Obj).get f = o.get f := by cases f <;> rfl

theorem strsCount_with_dims (o : Obj) (dd : Option Nat) (n : Nat) (k : Nat) :
    strsCount ({ o with dimsData := dd, dimsSize := n } : Obj) k = strsCount o k := rfl

theorem dimsCount_set (h : Heap) (o : Obj) (f : Field) (s : Str) (id : Nat) : dimsCount h (o.set f s) id = dimsCount h o id := by
  simp [dimsCount]

theorem DimsOK_set {h : Heap} {o : Obj} (f : Field) (s : Str) : DimsOK h (o.set f s) ↔ DimsOK h o := by
  simp [DimsOK]

theorem ObjOK.get {h : Heap} {o : Obj} (ok : ObjOK h o) (f : Field) : StrOK h (o.get f) := by
  cases f
  · exact ok.uri
  · exact ok.mdata
  · exact ok.akey
  · exact ok.skey

theorem strCount_get_le (o : Obj) (f : Field) (id : Nat) : strCount (o.get f) id ≤ strsCount o id := by
  cases f <;> simp [Obj.get, strsCount] <;> omega

theorem ObjOK_of_fields {h : Heap} {o : Obj} (hs : ∀ f, StrOK h (o.get f)) (hd : DimsOK h o) : ObjOK h o :=
  ⟨hs .uri, hs .mdata, hs .akey, hs .skey, hd⟩

theorem ObjOK_default (h : Heap) : ObjOK h {} := by
  constructor <;> simp [StrOK, DimsOK]

theorem objCount_default (h : Heap) (id : Nat) : objCount h {} id = 0 := by
  simp [objCount, strsCount, dimsCount]

/-! ### the object owns whatever its parts own -/

theorem objCount_pos_of_field {o : Obj} {f : Field} {k : Nat} (hk : 0 < strCount (o.get f) k) (h : Heap) :
    0 < objCount h o k := by
  have := strCount_get_le o f k
  unfold objCount; omega

theorem objCount_pos_of_strs {o : Obj} {k : Nat} (hk : 0 < strsCount o k) (h : Heap) : 0 < objCount h o k := by
  unfold objCount; omega

theorem objCount_pos_of_dims {h : Heap} {o : Obj} {k : Nat} (hk : 0 < dimsCount h o k) : 0 < objCount h o k := by
  unfold objCount; omega

theorem dimsCount_pos_of_name {h : Heap} {o : Obj} {d : Nat} (hd : o.dimsData = some d) {dm : Dim} (hdm : dm ∈ h.dimsOf d)
    {k : Nat} (hk : 0 < strCount dm.name k) : 0 < dimsCount h o k := by
  have := namesCount_mem_le (h.dimsOf d) dm hdm k
  rw [dimsCount_some hd]; omega

/-! ### congruence: counts and well-formedness look only at the blocks the object owns -/

theorem StrOK_congr {h h' : Heap} {s : Str} (ok : StrOK h s)
    (e : ∀ k, 0 < strCount s k → h'.cells k = h.cells k) : StrOK h' s := by
  unfold StrOK at ok ⊢
  split
  · next hs => simpa [hs] using ok
  · next id hs =>
    simp only [hs] at ok
    rw [bytesOf_congr (e id (by simp [strCount, hs, ok.1]))]
    exact ok
  · next b hs => simpa [hs] using ok

theorem dimsCount_congr {h h' : Heap} {o : Obj}
    (e : ∀ k, 0 < dimsCount h o k → h'.cells k = h.cells k) (id : Nat) : dimsCount h' o id = dimsCount h o id := by
  cases hd : o.dimsData with
  | none => rw [dimsCount_none hd, dimsCount_none hd]
  | some d => rw [dimsCount_some hd, dimsCount_some hd, dimsOf_congr (e d (dimsCount_data hd h))]

theorem objCount_congr {h h' : Heap} {o : Obj}
    (e : ∀ k, 0 < objCount h o k → h'.cells k = h.cells k) (id : Nat) : objCount h' o id = objCount h o id := by
  unfold objCount
  rw [dimsCount_congr fun k hk => e k (objCount_pos_of_dims hk)]

theorem DimsOK_congr {h h' : Heap} {o : Obj} (ok : DimsOK h o)
    (e : ∀ k, 0 < dimsCount h o k → h'.cells k = h.cells k) : DimsOK h' o := by
  cases hd : o.dimsData with
  | none => rw [DimsOK_none hd] at ok ⊢; exact ok
  | some d =>
    rw [DimsOK_some hd] at ok ⊢
    rw [dimsOf_congr (e d (dimsCount_data hd h))]
    exact ⟨ok.1, ok.2.1, fun dm hdm => StrOK_congr (ok.2.2 dm hdm) fun k hk => e k (dimsCount_pos_of_name hd hdm hk)⟩

theorem ObjOK_congr {h h' : Heap} {o : Obj} (ok : ObjOK h o)
    (e : ∀ k, 0 < objCount h o k → h'.cells k = h.cells k) : ObjOK h' o :=
  ObjOK_of_fields (fun f => StrOK_congr (ok.get f) fun k hk => e k (objCount_pos_of_field hk h))
    (DimsOK_congr ok.dims fun k hk => e k (objCount_pos_of_dims hk))

end AcqVerif.SProps
