import AcqVerif.SProps.Ops
/-!
# `storage_properties_copy`
-/
namespace AcqVerif.SProps

/-- state of `storage_properties_copy` between two `copy_string` calls: fields in `done` are copied,
and nothing but the four strings differs from `dst` -/
structure CopyInv (h : Heap) (dst src : Obj) (done : Field → Prop) (hi : Heap) (oi : Obj) : Prop where
  st : Step h dst hi oi
  sp : Sep hi oi src
  vals : ∀ g, done g → strVal hi (oi.get g) = strVal h (src.get g)
  srcv : objView hi src = objView h src
  rest : { oi with uri := dst.uri, mdata := dst.mdata, akey := dst.akey, skey := dst.skey } = dst

theorem copy_link {h : Heap} {dst src : Obj} {done : Field → Prop} {hi : Heap} {oi : Obj} (owd : Owns h dst)
    (ci : CopyInv h dst src done hi oi) (f : Field) :
    (setStr hi oi f (src.get f)).2.2 = true ∧
    CopyInv h dst src (fun g => done g ∨ g = f) (setStr hi oi f (src.get f)).1 (setStr hi oi f (src.get f)).2.1 := by
  obtain ⟨r1, st, v, oth⟩ := setStr_link f ci.st.hok ci.st.ok (ci.st.owns owd) (ci.sp.srcOK f) (ci.sp.na f)
  obtain ⟨sp', _, vs⟩ := ci.sp.step st
  refine ⟨r1, ci.st.trans st, sp', ?_, vs.trans ci.srcv, Eq.trans ?_ ci.rest⟩
  · intro g hg
    by_cases hgf : g = f
    · subst hgf
      rw [v, term_strVal_of_StrOK (ci.sp.ok.get g), strVal_get_of_objView ci.srcv g]
    · obtain ⟨e1, e2⟩ := oth g hgf
      rw [e1, e2, ci.vals g (hg.resolve_right hgf)]
  · show ({ oi.set f _ with uri := dst.uri, mdata := dst.mdata, akey := dst.akey, skey := dst.skey } : Obj) = _
    cases f <;> rfl

/-- step 2 of the copy: the four strings -/
theorem copyStrings_spec {h : Heap} {dst src : Obj} (hok : HeapOK h) (okd : ObjOK h dst) (owd : Owns h dst)
    (sp : Sep h dst src) :
    (copyStrings h dst src).2.2 = true ∧
    CopyInv h dst src (fun _ => True) (copyStrings h dst src).1 (copyStrings h dst src).2.1 := by
  have c0 : CopyInv h dst src (fun _ => False) h dst :=
    ⟨Step.refl hok okd, sp, fun _ hf => absurd hf id, rfl, rfl⟩
  obtain ⟨r1, c1⟩ := copy_link owd c0 .uri
  unfold copyStrings
  have eu : src.uri = src.get .uri := rfl
  have em : src.mdata = src.get .mdata := rfl
  have ea : src.akey = src.get .akey := rfl
  have es : src.skey = src.get .skey := rfl
  rw [eu, em, ea, es]
  simp only [r1, Bool.not_true, Bool.false_eq_true, if_false]
  generalize setStr h dst .uri (src.get .uri) = q1 at *
  obtain ⟨r2, c2⟩ := copy_link owd c1 .mdata
  simp only [r2, Bool.not_true, Bool.false_eq_true, if_false]
  generalize setStr q1.1 q1.2.1 .mdata (src.get .mdata) = q2 at *
  obtain ⟨r3, c3⟩ := copy_link owd c2 .akey
  simp only [r3, Bool.not_true, Bool.false_eq_true, if_false]
  generalize setStr q2.1 q2.2.1 .akey (src.get .akey) = q3 at *
  obtain ⟨r4, c4⟩ := copy_link owd c3 .skey
  refine ⟨r4, c4.st, c4.sp, fun g _ => c4.vals g ?_, c4.srcv, c4.rest⟩
  cases g <;> simp

/-! ### step 3: the dimensions -/

/-- what step 3 establishes -/
structure DimsCopied (h : Heap) (dst src : Obj) (h' : Heap) (o' : Obj) : Prop where
  st : Step h dst h' o'
  rest : ∃ dd, o' = { dst with dimsData := dd, dimsSize := src.dimsSize }
  strs : ∀ k, 0 < strsCount dst k → h'.cells k = h.cells k
  view : dimsView h' o' = dimsView h src

theorem copyDims_spec {h : Heap} {dst src : Obj} (hok : HeapOK h) (okd : ObjOK h dst) (owd : Owns h dst)
    (sp : Sep h dst src) :
    (copyDims h dst src).2.2 = true ∧ DimsCopied h dst src (copyDims h dst src).1 (copyDims h dst src).2.1 := by
  obtain ⟨sc, ec, cc⟩ := dimensionsDestroy_step hok okd owd
  have e : (if dst.dimsData ≠ none then dimensionsDestroy h dst else (h, dst)) = dimensionsDestroy h dst := by
    split
    · rfl
    · next hd => rw [dimensionsDestroy_none (Decidable.not_not.mp hd)]
  unfold copyDims
  rw [e]
  generalize dimensionsDestroy h dst = c at *
  obtain ⟨spc, _, vsc⟩ := sp.step sc
  have owc := sc.owns owd
  cases hs : src.dimsData with
  | none =>
    simp only [ne_eq, not_true_eq_false, if_false]
    have hss : src.dimsSize = 0 := (DimsOK_none hs).mp sp.ok.dims
    exact ⟨trivial, sc, ⟨none, by rw [ec, hss]⟩, cc, by simp [dimsView, ec, hs]⟩
  | some sd =>
    simp only [ne_eq, reduceCtorEq, not_false_eq_true, if_true]
    have hn := ((DimsOK_some hs).mp sp.ok.dims).1
    -- allocate dst's new array
    have si := dimensionsInit_step src.dimsSize sc.hok sc.ok owc
    rw [dimensionsInit_eq (by rw [ec]) (by omega)] at si ⊢
    simp only [Bool.not_true, Bool.false_eq_true, if_false]
    obtain ⟨spi, _, vsi⟩ := spc.step si
    have owi := si.owns owc
    generalize hq : (c.1.malloc (.dims (List.replicate src.dimsSize default))).1 = q at *
    have hqd : ({ c.2 with dimsData := some c.1.next, dimsSize := src.dimsSize } : Obj).dimsData = some c.1.next := rfl
    have hlen : (q.dimsOf c.1.next).length = src.dimsSize := by rw [← hq]; simp
    have hslen : (q.dimsOf sd).length = src.dimsSize := ((DimsOK_some hs).mp spi.ok.dims).2.1
    obtain ⟨lok, ls, lv⟩ := copyLoop_spec hqd hs src.dimsSize q 0 si.hok si.ok owi spi (by omega) (by omega)
      fun j hj => absurd hj (Nat.not_lt_zero j)
    generalize copyLoop q (some c.1.next) (some sd) 0 src.dimsSize = l at *
    refine ⟨lok, (sc.trans si).trans ls.st, ⟨some c.1.next, by rw [ec]⟩, fun k hk => ?_, ?_⟩
    · have hkc : 0 < strsCount c.2 k := by rw [ec, strsCount_with_dims]; exact hk
      rw [ls.strs k hkc, ← hq, malloc_cells_lt _ _ _ (owc.lt (objCount_pos_of_strs hkc _)), cc k hk]
    · refine Eq.trans ?_ (congrArg ObjView.dims (vsi.trans vsc))
      show dimsView l.1 _ = dimsView q src
      simp only [dimsView, hs]
      have hll := ((DimsOK_some hqd).mp ls.st.ok.dims).2.1
      apply List.ext_getElem?
      intro j
      by_cases hj : j < src.dimsSize
      · exact lv j (by omega)
      · rw [List.getElem?_eq_none (by simp [hll]; omega), List.getElem?_eq_none (by simp; omega)]

/-! ### the whole function -/

theorem copyScalars_count (h : Heap) (dst src : Obj) (k : Nat) : objCount h (copyScalars dst src) k = objCount h dst k := rfl

theorem copyScalars_get (dst src : Obj) (f : Field) : (copyScalars dst src).get f = dst.get f := by cases f <;> rfl

theorem copy_spec {h : Heap} {dst src : Obj} (hok : HeapOK h) (okd : ObjOK h dst) (owd : Owns h dst) (sp : Sep h dst src) :
    (copy h dst src).2.2 = true ∧
    Step h dst (copy h dst src).1 (copy h dst src).2.1 ∧
    objView (copy h dst src).1 (copy h dst src).2.1 = objView h src := by
  have ok0 : ObjOK h (copyScalars dst src) := ⟨okd.uri, okd.mdata, okd.akey, okd.skey, okd.dims⟩
  have ow0 : Owns h (copyScalars dst src) := fun k => by rw [copyScalars_count]; exact owd k
  have sp0 : Sep h (copyScalars dst src) src := ⟨sp.ok, fun k hk => by rw [copyScalars_count]; exact sp.disj k hk⟩
  obtain ⟨r1, ci⟩ := copyStrings_spec hok ok0 ow0 sp0
  unfold copy
  simp only [r1, Bool.not_true, Bool.false_eq_true, if_false]
  generalize copyStrings h (copyScalars dst src) src = q at *
  obtain ⟨r2, dc⟩ := copyDims_spec ci.st.hok ci.st.ok (ci.st.owns ow0) ci.sp
  generalize copyDims q.1 q.2.1 src = p at *
  refine ⟨r2, (ci.st.trans dc.st).of_count_eq (fun k => (copyScalars_count h dst src k).symm), ?_⟩
  obtain ⟨dd, ep⟩ := dc.rest
  have hs : ∀ f, strVal p.1 (p.2.1.get f) = strVal h (src.get f) := by
    intro f
    rw [ep, get_with_dims, ← ci.vals f trivial]
    apply strVal_congr_ok (ci.st.ok.get f)
    intro k hk
    exact dc.strs k (Nat.lt_of_lt_of_le hk (strCount_get_le q.2.1 f k))
  have hu := hs .uri; have hm := hs .mdata; have ha := hs .akey; have hk := hs .skey
  simp only [Obj.get] at hu hm ha hk
  have hdv : dimsView q.1 src = dimsView h src := congrArg ObjView.dims ci.srcv
  have e1 := congrArg Obj.firstFrameId ci.rest
  have e2 := congrArg Obj.pxX ci.rest
  have e3 := congrArg Obj.pxY ci.rest
  have e4 := congrArg Obj.multiscale ci.rest
  dsimp only [copyScalars] at e1 e2 e3 e4
  simp only [objView, hu, hm, ha, hk, dc.view, hdv]
  rw [ep]
  dsimp only
  rw [e1, e2, e3, e4]

end AcqVerif.SProps
