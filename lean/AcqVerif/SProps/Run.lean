import AcqVerif.SProps.Copy
/-!
# The invariant of a pool of objects, preserved by every well-formed operation
-/
namespace AcqVerif.SProps

/-- how many fields of how many objects own block `k` -/
def ownSum (s : State) (k : Nat) : Nat := (s.objs.map fun o => objCount s.h o k).sum

structure Inv (s : State) : Prop where
  hok : HeapOK s.h
  ok : ∀ i, i < s.objs.length → ObjOK s.h (s.obj i)
  own : ∀ k, ownSum s k = b2n (s.h.live k)

theorem obj_eq_getElem (s : State) (i : Nat) (hi : i < s.objs.length) : s.obj i = s.objs[i] := by
  simp [State.obj, List.getD, hi]

theorem put_obj_self (s : State) (i : Nat) (r : Heap × Obj) (hi : i < s.objs.length) : (s.put i r).obj i = r.2 := by
  simp [State.put, State.obj, List.getD, hi]

theorem put_obj_ne (s : State) {i j : Nat} (r : Heap × Obj) (hij : i ≠ j) : (s.put i r).obj j = s.obj j := by
  simp [State.put, State.obj, List.getD, hij]

@[simp] theorem put_length (s : State) (i : Nat) (r : Heap × Obj) : (s.put i r).objs.length = s.objs.length := by
  simp [State.put]

theorem Inv.owns {s : State} (inv : Inv s) {i : Nat} (hi : i < s.objs.length) : Owns s.h (s.obj i) := by
  intro k
  rw [← inv.own k, obj_eq_getElem s i hi]
  exact le_sum_map s.objs (fun o => objCount s.h o k) hi

/-- two different objects of the pool share no block, and what one owns is live -/
theorem Inv.sep {s : State} (inv : Inv s) {i j : Nat} (hi : i < s.objs.length) (hj : j < s.objs.length) (hij : i ≠ j) :
    Sep s.h (s.obj i) (s.obj j) := by
  refine ⟨inv.ok _ hj, fun k hk => ?_⟩
  have h2 := sum_map_two s.objs (fun o => objCount s.h o k) hi hj hij
  have h3 := inv.own k
  unfold ownSum at h3
  rw [obj_eq_getElem s i hi, obj_eq_getElem s j hj] at *
  have := b2n_le_one (s.h.live k)
  exact ⟨of_pos_le_b2n hk (by omega), by omega⟩

/-- replacing object `i` by the result of a `Step` keeps the invariant and leaves the others alone -/
theorem Inv.put {s : State} (inv : Inv s) {i : Nat} (hi : i < s.objs.length) {h' : Heap} {o' : Obj}
    (st : Step s.h (s.obj i) h' o') :
    Inv (s.put i (h', o')) ∧
    ∀ j, j ≠ i → j < s.objs.length →
      (s.put i (h', o')).obj j = s.obj j ∧
      (∀ k, 0 < objCount s.h (s.obj j) k → h'.cells k = s.h.cells k) ∧
      objView h' (s.obj j) = objView s.h (s.obj j) := by
  have others := fun j (hji : j ≠ i) (hj : j < s.objs.length) => ((inv.sep hi hj (Ne.symm hji)).step st).2
  refine ⟨⟨st.hok, ?_, ?_⟩, ?_⟩
  · intro j hj
    rw [put_length] at hj
    by_cases hji : j = i
    · rw [hji, put_obj_self s i _ hi]; exact st.ok
    · rw [put_obj_ne s _ (Ne.symm hji)]; exact ObjOK_congr (inv.ok j hj) (others j hji hj).1
  · intro k
    -- every object other than `i` counts the same in both heaps
    have h1 := sum_map_set s.objs (fun o => objCount h' o k) (fun o => objCount s.h o k) o' hi fun j hj hji => by
      have := objCount_congr (others j hji hj).1 k
      rwa [obj_eq_getElem s j hj] at this
    have h3 := st.bal k
    have h4 := inv.own k
    unfold ownSum at h4 ⊢
    rw [obj_eq_getElem s i hi] at h3
    simp only [State.put]
    omega
  · intro j hji hj
    exact ⟨put_obj_ne s _ (Ne.symm hji), others j hji hj⟩

/-! ### every well-formed operation preserves the invariant -/

/-- the object an operation is applied to (for `copy`: the destination) -/
def Op.target : Op → Nat
  | .init o _ _ _ _ _ _ => o
  | .setUri o _ => o
  | .setMeta o _ => o
  | .setKeys o _ _ => o
  | .setDim o _ _ _ _ _ _ => o
  | .setMultiscale o _ => o
  | .copy d _ => d
  | .destroy o => o
  | .ref o _ _ => o
  | .dimsInit o _ => o
  | .dimsDestroy o => o

theorem holdsNothing_count {h : Heap} {o : Obj} (hn : o.holdsNothing = true) (k : Nat) : objCount h o k = 0 := by
  simp only [Obj.holdsNothing, Bool.and_eq_true, Bool.or_eq_true, beq_iff_eq] at hn
  obtain ⟨⟨⟨⟨h1, h2⟩, h3⟩, h4⟩, h5⟩ := hn
  simp [objCount, strsCount, dimsCount, strCount_unowned h1.symm, strCount_unowned h2.symm, strCount_unowned h3.symm,
    strCount_unowned h4.symm, h5]

/-- the result of `step` for each operation is `put` of a `Step` -/
theorem step_is_put {s : State} (inv : Inv s) (op : Op) (wf : op.wf s = true) :
    op.target < s.objs.length ∧
    ∃ h' o', (step s op).1 = s.put op.target (h', o') ∧ Step s.h (s.obj op.target) h' o' := by
  cases op
  all_goals simp only [Op.wf, Bool.and_eq_true, decide_eq_true_eq, Bool.or_eq_true, beq_iff_eq] at wf
  case init o ffid uri mdata px py nd =>
    obtain ⟨⟨⟨ho, wu⟩, wm⟩, hn⟩ := wf
    refine ⟨ho, _, _, rfl, ?_⟩
    exact (init_step ffid px py nd inv.hok wu wm).of_count_eq
      (fun k => by show objCount s.h (s.obj o) k = _; rw [holdsNothing_count hn k, objCount_default])
  case setUri o a =>
    exact ⟨wf.1, _, _, rfl, (setStr_arg .uri inv.hok (inv.ok _ wf.1) (inv.owns wf.1) wf.2).2⟩
  case setMeta o a =>
    exact ⟨wf.1, _, _, rfl, (setStr_arg .mdata inv.hok (inv.ok _ wf.1) (inv.owns wf.1) wf.2).2⟩
  case setKeys o a b =>
    exact ⟨wf.1.1, _, _, rfl, setAccessKeyAndSecret_step inv.hok (inv.ok _ wf.1.1) (inv.owns wf.1.1) wf.1.2 wf.2⟩
  case setDim o ix nm kd a c sh =>
    exact ⟨wf.1, _, _, rfl, setDimension_step ix nm kd a c sh inv.hok (inv.ok _ wf.1) (inv.owns wf.1) wf.2⟩
  case setMultiscale o v =>
    exact ⟨wf, _, _, rfl, setEnableMultiscale_step v inv.hok (inv.ok _ wf)⟩
  case copy d c =>
    obtain ⟨⟨hd, hc⟩, hne⟩ := wf
    exact ⟨hd, _, _, rfl, (copy_spec inv.hok (inv.ok _ hd) (inv.owns hd) (inv.sep hd hc hne)).2.1⟩
  case destroy o =>
    exact ⟨wf, _, _, rfl, (destroy_step inv.hok (inv.ok _ wf) (inv.owns wf)).1⟩
  case ref o f b =>
    obtain ⟨⟨ho, ht⟩, hn⟩ := wf
    exact ⟨ho, _, _, rfl, ref_step f b inv.hok (inv.ok _ ho) (inv.owns ho) ht hn⟩
  case dimsInit o n =>
    exact ⟨wf, _, _, rfl, dimensionsInit_step n inv.hok (inv.ok _ wf) (inv.owns wf)⟩
  case dimsDestroy o =>
    exact ⟨wf, _, _, rfl, (dimensionsDestroy_step inv.hok (inv.ok _ wf) (inv.owns wf)).1⟩

theorem step_inv {s : State} (inv : Inv s) (op : Op) (wf : op.wf s = true) :
    Inv (step s op).1 ∧ (step s op).1.objs.length = s.objs.length := by
  obtain ⟨hi, h', o', e, st⟩ := step_is_put inv op wf
  rw [e]
  exact ⟨(inv.put hi st).1, by simp⟩

theorem init_inv (n : Nat) : Inv (State.init n) := by
  refine ⟨HeapOK_empty, ?_, ?_⟩
  · intro i hi
    rw [obj_eq_getElem _ i hi]
    simp only [State.init, List.getElem_replicate]
    exact ObjOK_default _
  · intro k
    rw [not_live_of_ge (Nat.zero_le _)]
    simp [ownSum, State.init, objCount_default]

theorem run_inv (ops : List Op) : ∀ s, Inv s → Inv (run s ops) ∧ (run s ops).objs.length = s.objs.length := by
  induction ops with
  | nil => intro s inv; exact ⟨inv, rfl⟩
  | cons op rest ih =>
    intro s inv
    simp only [run]
    by_cases wf : op.wf s = true
    · simp only [wf, if_true]
      obtain ⟨i1, l1⟩ := step_inv inv op wf
      obtain ⟨i2, l2⟩ := ih _ i1
      exact ⟨i2, by rw [l2, l1]⟩
    · simp only [wf]
      exact ih s inv

/-! ### destroying every object empties the heap -/

theorem destroyFrom_spec (k : Nat) : ∀ (s : State) (i : Nat), Inv s → i + k ≤ s.objs.length →
    (∀ j, j < i → ∀ m, objCount s.h (s.obj j) m = 0) →
    Inv (destroyFrom s i k) ∧ (destroyFrom s i k).objs.length = s.objs.length ∧
    ∀ j, j < i + k → ∀ m, objCount (destroyFrom s i k).h ((destroyFrom s i k).obj j) m = 0 := by
  induction k with
  | zero => intro s i inv _ hz; exact ⟨inv, rfl, fun j hj m => hz j (by omega) m⟩
  | succ k ih =>
    intro s i inv hik hz
    have hi : i < s.objs.length := by omega
    obtain ⟨st, zero⟩ := destroy_step inv.hok (inv.ok _ hi) (inv.owns hi)
    obtain ⟨inv1, oth⟩ := inv.put hi st
    obtain ⟨a, b, c⟩ := ih (s.put i (destroy s.h (s.obj i))) (i + 1) inv1 (by simp; omega) fun j hj m => by
      by_cases hji : j = i
      · subst hji
        rw [put_obj_self _ _ _ hi]; exact zero m _
      · obtain ⟨e1, e2, _⟩ := oth j hji (by omega)
        rw [e1]
        exact (objCount_congr e2 m).trans (hz j (by omega) m)
    exact ⟨a, b.trans (put_length _ _ _), fun j hj m => c j (by omega) m⟩

theorem destroyAll_spec {s : State} (inv : Inv s) :
    Inv (destroyAll s) ∧ ∀ k, (destroyAll s).h.live k = false := by
  obtain ⟨a, b, c⟩ := destroyFrom_spec s.objs.length s 0 inv (by omega) (fun j hj => by omega)
  show Inv (destroyFrom s 0 s.objs.length) ∧ ∀ k, (destroyFrom s 0 s.objs.length).h.live k = false
  generalize destroyFrom s 0 s.objs.length = s' at *
  refine ⟨a, fun k => ?_⟩
  have h1 := a.own k
  have hz : ownSum s' k = 0 := by
    rw [ownSum, List.sum_eq_zero_iff_forall_eq_nat]
    intro x hx
    obtain ⟨o, ho, rfl⟩ := List.mem_map.mp hx
    obtain ⟨j, hj, rfl⟩ := List.getElem_of_mem ho
    have := c j (by omega) k
    rwa [obj_eq_getElem _ j hj] at this
  rw [hz] at h1
  exact b2n_eq_zero.mp h1.symm

end AcqVerif.SProps
