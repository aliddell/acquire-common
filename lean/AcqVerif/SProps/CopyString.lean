import AcqVerif.SProps.Inv
/-!
# Changes of one `String` slot: `copy_string`, and the release of an owned string

Both are an `SStep`: the slot owns one block more or less exactly as one block more or less is
live, and no block the slot did not own is touched.  `Step_of_field` and `AStep_store` lift an
`SStep` of a field, or of the name of an array element, to the object.
-/
namespace AcqVerif.SProps

/-- the bytes a `String` stands for, as `copy_string` reads a source: NULL / empty ↦ `"\0"` -/
def strVal (h : Heap) (s : Str) : List Byte :=
  if s.nbytes = 0 then [0] else
  match s.str with
  | .null => [0]
  | .heap id => (h.bytesOf id).take s.nbytes
  | .ext b => b.take s.nbytes

/-- force the last byte to NUL -/
def term (bs : List Byte) : List Byte := bs.take (bs.length - 1) ++ [0]

/-- the source can be read: it is NULL, caller memory of the stated length, or a live block of at
least the stated length -/
def SrcOK (h : Heap) (s : Str) : Prop :=
  match s.str with
  | .null => True
  | .heap id => h.live id = true ∧ s.nbytes ≤ (h.bytesOf id).length
  | .ext b => s.nbytes ≤ b.length

theorem term_length (bs : List Byte) (_h : 1 ≤ bs.length) : (term bs).length = bs.length := by
  simp [term]; omega

theorem term_last (bs : List Byte) : (term bs)[bs.length - 1]? = some 0 := by
  unfold term
  rw [List.getElem?_append_right (by simp)]
  simp

theorem term_of_terminated (bs : List Byte) (h1 : 1 ≤ bs.length) (h : bs[bs.length - 1]? = some 0) : term bs = bs := by
  have hlt : bs.length - 1 < bs.length := by omega
  rw [List.getElem?_eq_getElem hlt, Option.some.injEq] at h
  rw [term, ← h, ← List.take_succ_eq_append_getElem hlt, show bs.length - 1 + 1 = bs.length by omega, List.take_length]

theorem StrOK_SrcOK {h : Heap} {s : Str} (ok : StrOK h s) (hl : ∀ k, strCount s k ≤ b2n (h.live k)) : SrcOK h s := by
  have hlive : ∀ id, s.str = .heap id → h.live id = true := fun id hs =>
    of_pos_le_b2n (by rw [ok.heap_count hs]; exact Nat.one_pos) (hl id)
  unfold StrOK at ok; unfold SrcOK
  split
  · trivial
  · next id hs => simp only [hs] at ok; exact ⟨hlive id hs, ok.2.2.1⟩
  · next b hs => simp only [hs] at ok; omega

theorem term_take (b : List Byte) (n : Nat) (h1 : 1 ≤ n) (h2 : n ≤ b.length) (h3 : b[n - 1]? = some 0) :
    term (b.take n) = b.take n := by
  have hlen : (b.take n).length = n := by simp; omega
  apply term_of_terminated _ (by omega)
  rw [hlen, List.getElem?_take]
  simp only [show n - 1 < n by omega, if_true]
  exact h3

/-- a stored string is terminated: forcing the last byte changes nothing -/
theorem term_strVal_of_StrOK {h : Heap} {s : Str} (ok : StrOK h s) : term (strVal h s) = strVal h s := by
  unfold StrOK at ok; unfold strVal
  split at ok
  · next hs => simp [ok.2, term]
  · next id hs =>
    obtain ⟨_, h1, h2, h3⟩ := ok
    simp only [show s.nbytes ≠ 0 by omega, if_false, hs]
    exact term_take _ _ h1 h2 h3
  · next b hs =>
    obtain ⟨_, h1, h2, h3⟩ := ok
    simp only [show s.nbytes ≠ 0 by omega, if_false, hs]
    exact term_take _ _ h1 (by omega) h3

theorem strVal_length {h : Heap} {s : Str} (ok : SrcOK h s) (hn : 1 ≤ s.nbytes) (hnn : s.str ≠ .null) :
    (strVal h s).length = s.nbytes := by
  unfold SrcOK at ok; unfold strVal
  have : s.nbytes ≠ 0 := by omega
  simp only [this, if_false]
  split
  · next hs => exact absurd hs hnn
  · next id hs => simp only [hs] at ok; simp only [List.length_take]; omega
  · next b hs => simp only [hs] at ok; simp only [List.length_take]; omega

/-! ### the source after normalisation -/

theorem csSrc_nbytes (s : Str) : 1 ≤ (csSrc s).nbytes := by
  unfold csSrc; split
  · simp [emptyStr]
  · next h => simp only [not_or] at h; omega

theorem csSrc_val (h : Heap) (s : Str) : strVal h (csSrc s) = strVal h s := by
  unfold csSrc; split
  · next hc =>
    unfold strVal
    rcases hc with hc | hc <;> simp [emptyStr, hc]
  · rfl

theorem csSrc_SrcOK {h : Heap} {s : Str} (ok : SrcOK h s) : SrcOK h (csSrc s) := by
  unfold csSrc; split
  · simp [SrcOK, emptyStr]
  · exact ok

theorem csSrc_heap {s : Str} {k : Nat} (hs : (csSrc s).str = .heap k) : s.str = .heap k := by
  unfold csSrc at hs; split at hs
  · simp [emptyStr] at hs
  · exact hs

theorem csSrc_not_null (s : Str) : (csSrc s).str ≠ .null := by
  unfold csSrc; split
  · simp [emptyStr]
  · next h => simp only [not_or] at h; exact h.1

/-! ### the same source in another heap -/

theorem strVal_congr {h h' : Heap} {s : Str} (e : ∀ k, s.str = .heap k → h'.cells k = h.cells k) : strVal h' s = strVal h s := by
  unfold strVal
  split
  · rfl
  · split
    · rfl
    · next id hs => rw [bytesOf_congr (e id hs)]
    · rfl

theorem strVal_congr_ok {h h' : Heap} {s : Str} (ok : StrOK h s) (e : ∀ k, 0 < strCount s k → h'.cells k = h.cells k) :
    strVal h' s = strVal h s :=
  strVal_congr (fun k hk => e k (by rw [ok.heap_count hk]; omega))

theorem SrcOK_congr {h h' : Heap} {s : Str} (ok : SrcOK h s)
    (e : ∀ k, s.str = .heap k → h'.cells k = h.cells k ∧ h'.live k = true) : SrcOK h' s := by
  unfold SrcOK at ok ⊢
  split
  · trivial
  · next id hs =>
    simp only [hs] at ok
    obtain ⟨e1, e2⟩ := e id hs
    exact ⟨e2, by rw [bytesOf_congr e1]; exact ok.2⟩
  · next b hs => simpa [hs] using ok

theorem SrcOK_heap_live {h : Heap} {s : Str} {k : Nat} (ok : SrcOK h s) (hs : s.str = .heap k) : h.live k = true := by
  unfold SrcOK at ok; simp only [hs] at ok; exact ok.1

/-! ### `csFill` -/

/-- reading a readable, non-empty source yields its value -/
theorem load_src {h : Heap} {s : Str} (ok : SrcOK h s) (hnn : s.str ≠ .null) (hn : 1 ≤ s.nbytes) :
    h.load s.str s.nbytes = (h, strVal h s) := by
  unfold SrcOK at ok; unfold strVal
  simp only [show s.nbytes ≠ 0 by omega, if_false]
  split
  · next hs => exact absurd hs hnn
  · next k hs => simp only [hs] at ok ⊢; rw [load_heap ok.1 _ ok.2]
  · next b hs => simp only [hs] at ok ⊢; rw [load_ext _ _ _ ok]

/-- filling the live block `id` of `h` from a source readable in `h0`, whose block is not `id` and is in `h` as in `h0` -/
theorem csFill_spec {h0 h : Heap} {id : Nat} {s : Str} (hl : h.live id = true) (ok : SrcOK h0 s)
    (e : ∀ k, s.str = .heap k → k ≠ id ∧ h.cells k = h0.cells k ∧ h.live k = true)
    (hnn : s.str ≠ .null) (hn : 1 ≤ s.nbytes) (hlen : s.nbytes ≤ (h.bytesOf id).length) :
    csFill h (.heap id) s =
      h.setCell id ⟨.bytes (term (strVal h0 s) ++ (h.bytesOf id).drop s.nbytes), false⟩ := by
  have hvl := strVal_length ok hn hnn
  -- the first store leaves the source's block alone
  have e' : ∀ c k, s.str = .heap k → (h.setCell id c).cells k = h0.cells k ∧ (h.setCell id c).live k = true :=
    fun c k hk => ⟨by rw [setCell_cells_ne _ _ _ _ (e k hk).1, (e k hk).2.1],
      by rw [setCell_live_ne _ _ _ _ (e k hk).1]; exact (e k hk).2.2⟩
  unfold csFill
  simp only [show s.nbytes > 0 by omega, if_true]
  rw [store_heap hl 0 _ (by simp; exact hlen), load_src (SrcOK_congr ok (e' _)) hnn hn, strVal_congr fun k hk => (e' _ k hk).1]
  simp only
  rw [store_setCell hl _ 0 _ (by simp [hvl]), store_setCell hl _ _ _ (by simp [hvl]; omega)]
  congr 2
  -- zeroes, then the source over them, then NUL over its last byte
  have hn1 : s.nbytes - 1 + 1 = s.nbytes := by omega
  simp only [List.take_zero, List.nil_append, Nat.zero_add, List.length_replicate, hvl, term, List.length_singleton, hn1]
  rw [List.drop_append_of_le_length (by simp), List.drop_eq_nil_of_le (by simp), List.nil_append,
    List.take_append_of_le_length (by omega), List.drop_append_of_le_length (by omega),
    List.drop_eq_nil_of_le (by omega), List.nil_append]

/-! ### `copy_string` -/

theorem pad_length (bs : List Byte) (n : Nat) : (pad bs n).length = n := by
  simp [pad]; omega

/-- a change of one `String` slot (`s ↦ s'`) together with the heap: what the slot owns changes as
what is live does (`bal`), and blocks the slot did not own are untouched (`frame`) -/
structure SStep (h : Heap) (s : Str) (h' : Heap) (s' : Str) : Prop where
  hok : HeapOK h'
  sok : StrOK h' s'
  bal : ∀ k, strCount s' k + b2n (h.live k) = strCount s k + b2n (h'.live k)
  frame : ∀ k, k < h.next → strCount s k = 0 → h'.cells k = h.cells k
  mono : h.next ≤ h'.next

/-- `if (!s->is_ref && s->str) free(s->str);` followed by zeroing the slot -/
theorem freeStr_spec {h : Heap} {s : Str} (hok : HeapOK h) (ok : StrOK h s) (hl : ∀ k, strCount s k ≤ b2n (h.live k)) :
    SStep h s (if s.isRef = false ∧ s.str ≠ .null then h.freePtr s.str else h) {} := by
  rcases ok.owner with ⟨hn, hz⟩ | ⟨id, hs, hr, hc⟩
  · have : ¬ (s.isRef = false ∧ s.str ≠ .null) := by rcases hn with hn | hn <;> simp [hn]
    simp only [this, if_false]
    exact ⟨hok, StrOK_default h, fun k => by rw [hz k, strCount_default], fun _ _ _ => rfl, Nat.le_refl _⟩
  · have hlive : h.live id = true := of_pos_le_b2n (by rw [hc id]; simp) (hl id)
    simp only [hs, hr, true_and, ne_eq, reduceCtorEq, not_false_eq_true, if_true, Heap.freePtr, free_live hlive]
    refine ⟨HeapOK_release hok _ hlive, StrOK_default _, fun k => ?_, fun k _ hz => ?_, Nat.le_refl _⟩
    · rw [strCount_default, hc k, release_bal hlive k]; omega
    · rw [hc k] at hz
      exact release_cells_ne _ _ _ (fun e => by simp [e] at hz)

/-- what `copy_string` establishes -/
structure CSpec (h : Heap) (dst : Str) (v : List Byte) (h' : Heap) (dst' : Str) : Prop extends SStep h dst h' dst' where
  val : strVal h' dst' = term v
  notRef : dst'.isRef = false
  notNull : dst'.str ≠ .null

/-- the state between `csGrow` and `csFill`: the destination is a live block `id` of at least `n`
bytes, which the slot owns instead of whatever it owned before -/
structure Ready (h : Heap) (dst : Str) (n : Nat) (h1 : Heap) (id : Nat) : Prop where
  hok : HeapOK h1
  live : h1.live id = true
  len : n ≤ (h1.bytesOf id).length
  bal : ∀ k, (if id = k then 1 else 0) + b2n (h.live k) = strCount dst k + b2n (h1.live k)
  frame : ∀ k, k < h.next → strCount dst k = 0 → h1.cells k = h.cells k
  mono : h.next ≤ h1.next
  fresh : ∀ k, k < h.next → strCount dst k = 0 → k ≠ id

theorem csReady {h : Heap} {dst : Str} (n : Nat) (hok : HeapOK h) (dok : StrOK h dst)
    (dl : ∀ k, strCount dst k ≤ b2n (h.live k)) :
    ∃ id, (csGrow (csAlloc h dst n).1 (csAlloc h dst n).2 n).2.str = .heap id ∧
      (csGrow (csAlloc h dst n).1 (csAlloc h dst n).2 n).2.isRef = false ∧
      Ready h dst n (csGrow (csAlloc h dst n).1 (csAlloc h dst n).2 n).1 id := by
  rcases dok.owner with ⟨hA, hz⟩ | ⟨id, hs, hr, hc⟩
  · -- the destination owns nothing: allocate
    have e : csGrow (csAlloc h dst n).1 (csAlloc h dst n).2 n =
        ((h.malloc (.bytes (List.replicate n 0))).1, { str := .heap h.next, nbytes := n, isRef := false }) := by
      simp [csAlloc, hA, csGrow]
    rw [e]
    dsimp only
    refine ⟨h.next, rfl, rfl, HeapOK_malloc hok _, by simp [malloc_live], by simp, fun k => ?_,
      fun k hk _ => malloc_cells_lt h _ k hk, Nat.le_succ _, fun k hk _ => Nat.ne_of_lt hk⟩
    rw [hz k, malloc_bal]; omega
  · have hlid : h.live id = true := of_pos_le_b2n (by rw [hc id]; simp) (dl id)
    have hA : csAlloc h dst n = (h, dst) := by simp [csAlloc, hs, hr]
    rw [hA]
    by_cases hG : n > dst.nbytes
    · -- grow: `realloc` moves the block
      have e : csGrow h dst n = (((h.malloc (.bytes (pad (h.bytesOf id) n))).1).free id, { dst with str := .heap h.next }) := by
        simp [csGrow, hG, hs, Heap.realloc, touch_live hlid]
      rw [e]
      dsimp only
      have hlid1 : (h.malloc (.bytes (pad (h.bytesOf id) n))).1.live id = true := by
        have := live_lt hlid
        simp [malloc_live, hlid]
      have hne : h.next ≠ id := by have := live_lt hlid; omega
      rw [free_live hlid1]
      refine ⟨h.next, rfl, hr, HeapOK_release (HeapOK_malloc hok _) _ hlid1, by simp [release_live, malloc_live, hne],
        by simp [bytesOf_release, pad_length], fun k => ?_, fun k hk hz => ?_, Nat.le_succ _, fun k hk _ => Nat.ne_of_lt hk⟩
      · have := malloc_bal h (.bytes (pad (h.bytesOf id) n)) k
        have := release_bal hlid1 k
        rw [hc k]; omega
      · rw [hc k] at hz
        rw [release_cells_ne _ _ _ (fun e => by simp [e] at hz), malloc_cells_lt h _ k hk]
    · -- it fits: write in place
      have e : csGrow h dst n = (h, dst) := by simp [csGrow, hG]
      rw [e]
      dsimp only
      unfold StrOK at dok
      simp only [hs] at dok
      exact ⟨id, hs, hr, hok, hlid, by omega, fun k => by rw [hc k], fun _ _ _ => rfl, Nat.le_refl _,
        fun k _ hz e => by simp [hc k, e.symm] at hz⟩

/-- the filled block: everything `CSpec` needs to know about it -/
theorem filled_ok (h : Heap) (id n : Nat) (v rest : List Byte) (hv : v.length = n) (hn : 1 ≤ n) :
    StrOK (h.setCell id ⟨.bytes (term v ++ rest), false⟩) { str := .heap id, nbytes := n, isRef := false } ∧
    strVal (h.setCell id ⟨.bytes (term v ++ rest), false⟩) { str := .heap id, nbytes := n, isRef := false } = term v := by
  have htl : (term v).length = n := by rw [term_length v (by omega), hv]
  constructor
  · simp only [StrOK, bytesOf_setCell_same, List.length_append, htl, true_and]
    refine ⟨hn, by omega, ?_⟩
    rw [List.getElem?_append_left (by omega)]
    have := term_last v
    rwa [hv] at this
  · unfold strVal
    simp only [show n ≠ 0 by omega, if_false, bytesOf_setCell_same]
    rw [List.take_append_of_le_length (by omega), List.take_of_length_le (by omega)]

theorem copyString_spec {h : Heap} {dst src : Str} (hok : HeapOK h) (dok : StrOK h dst)
    (dl : ∀ k, strCount dst k ≤ b2n (h.live k)) (sok : SrcOK h src)
    (na : ∀ k, src.str = .heap k → dst.str ≠ .heap k) :
    (copyString h dst src).2.2 = true ∧ CSpec h dst (strVal h src) (copyString h dst src).1 (copyString h dst src).2.1 := by
  refine ⟨rfl, ?_⟩
  have hn := csSrc_nbytes src
  have hs := csSrc_SrcOK sok
  have hnn := csSrc_not_null src
  have na' : ∀ k, (csSrc src).str = .heap k → dst.str ≠ .heap k := fun k hk => na k (csSrc_heap hk)
  have hvl := strVal_length hs hn hnn
  rw [← csSrc_val h src]
  unfold copyString
  generalize csSrc src = s at *
  simp only
  obtain ⟨id, hp, hr, rd⟩ := csReady s.nbytes hok dok dl
  generalize csGrow (csAlloc h dst s.nbytes).1 (csAlloc h dst s.nbytes).2 s.nbytes = g at *
  rw [hp, hr]
  -- the source block is live and (by `na`) not the destination's own, so it is not block `id`
  have hsrc : ∀ k, s.str = .heap k → k ≠ id ∧ g.1.cells k = h.cells k ∧ g.1.live k = true := by
    intro k hk
    have hlk := SrcOK_heap_live hs hk
    have hlt := live_lt hlk
    have hz : strCount dst k = 0 := by
      cases hc : strCount dst k with
      | zero => rfl
      | succ m => exact absurd (strCount_pos (by omega)).1 (na' k hk)
    have e := rd.frame k hlt hz
    exact ⟨rd.fresh k hlt hz, e, by rw [live_congr e hlt rd.mono]; exact hlk⟩
  rw [csFill_spec rd.live hs hsrc hnn hn rd.len]
  obtain ⟨f1, f2⟩ := filled_ok g.1 id s.nbytes (strVal h s) (List.drop s.nbytes (g.1.bytesOf id)) hvl hn
  have hfr : (false : Bool) = (g.1.cells id).freed := ((live_iff _ _).mp rd.live).2.symm
  refine ⟨⟨HeapOK_setCell rd.hok _ _ hfr, f1, fun k => ?_, fun k hk hz => ?_, rd.mono⟩, f2, rfl, by simp⟩
  · rw [setCell_live _ _ _ _ hfr, strCount_owned rfl rfl]; exact rd.bal k
  · rw [setCell_cells_ne _ _ _ _ (rd.fresh k hk hz), rd.frame k hk hz]

end AcqVerif.SProps
