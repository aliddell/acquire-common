import AcqVerif.SProps.Step
/-!
# Objects compared by content (`objView`), and two objects that share nothing (`Sep`)

A `Step` of one object leaves a separate object as it is: the struct, every block it owns, and
therefore its content.
-/
namespace AcqVerif.SProps

/-- what "equal" means for one dimension: name by content, the rest by value -/
def dimView (h : Heap) (d : Dim) : List Byte × Nat × Nat × Nat × Nat :=
  (strVal h d.name, d.kind, d.arraySizePx, d.chunkSizePx, d.shardSizeChunks)

/-- the dimensions of an object by content -/
def dimsView (h : Heap) (o : Obj) : List (List Byte × Nat × Nat × Nat × Nat) :=
  match o.dimsData with
  | none => []
  | some d => (h.dimsOf d).map (dimView h)

/-- an object by content: what "equal in every field" means -/
structure ObjView where
  uri : List Byte
  mdata : List Byte
  akey : List Byte
  skey : List Byte
  firstFrameId : Nat
  pxX : Nat
  pxY : Nat
  multiscale : Nat
  dimsSize : Nat
  dims : List (List Byte × Nat × Nat × Nat × Nat)
deriving DecidableEq, Repr

def objView (h : Heap) (o : Obj) : ObjView :=
  { uri := strVal h o.uri, mdata := strVal h o.mdata, akey := strVal h o.akey, skey := strVal h o.skey,
    firstFrameId := o.firstFrameId, pxX := o.pxX, pxY := o.pxY, multiscale := o.multiscale,
    dimsSize := o.dimsSize, dims := dimsView h o }

theorem dimView_eq {h h' : Heap} {x y : Dim} (en : strVal h' y.name = strVal h x.name)
    (er : (y.kind, y.arraySizePx, y.chunkSizePx, y.shardSizeChunks) = (x.kind, x.arraySizePx, x.chunkSizePx, x.shardSizeChunks)) :
    dimView h' y = dimView h x := by
  unfold dimView
  rw [en, er]

theorem dimView_congr {h h' : Heap} {dm : Dim} (e : ∀ k, 0 < strCount dm.name k → h'.cells k = h.cells k)
    (ok : StrOK h dm.name) : dimView h' dm = dimView h dm :=
  dimView_eq (strVal_congr_ok ok e) rfl

theorem dimsView_congr {h h' : Heap} {o : Obj} (ok : DimsOK h o)
    (e : ∀ k, 0 < dimsCount h o k → h'.cells k = h.cells k) : dimsView h' o = dimsView h o := by
  unfold dimsView
  cases hd : o.dimsData with
  | none => rfl
  | some d =>
    dsimp only
    rw [dimsOf_congr (e d (dimsCount_data hd h))]
    apply List.map_congr_left
    intro dm hdm
    exact dimView_congr (fun k hk => e k (dimsCount_pos_of_name hd hdm hk)) (((DimsOK_some hd).mp ok).2.2 dm hdm)

theorem objView_congr {h h' : Heap} {o : Obj} (ok : ObjOK h o)
    (e : ∀ k, 0 < objCount h o k → h'.cells k = h.cells k) : objView h' o = objView h o := by
  have es : ∀ f k, 0 < strCount (o.get f) k → h'.cells k = h.cells k := fun f k hk => e k (objCount_pos_of_field hk h)
  simp only [objView]
  rw [strVal_congr_ok ok.uri (es .uri), strVal_congr_ok ok.mdata (es .mdata), strVal_congr_ok ok.akey (es .akey),
    strVal_congr_ok ok.skey (es .skey), dimsView_congr ok.dims fun k hk => e k (objCount_pos_of_dims hk)]

theorem strVal_get_of_objView {h h' : Heap} {o : Obj} (e : objView h' o = objView h o) (f : Field) :
    strVal h' (o.get f) = strVal h (o.get f) := by
  cases f
  · exact congrArg ObjView.uri e
  · exact congrArg ObjView.mdata e
  · exact congrArg ObjView.akey e
  · exact congrArg ObjView.skey e

/-! ### separate objects -/

/-- `src` is a well-formed object whose blocks are live and none of which `dst` owns -/
structure Sep (h : Heap) (dst src : Obj) : Prop where
  ok : ObjOK h src
  disj : ∀ k, 0 < objCount h src k → h.live k = true ∧ objCount h dst k = 0

theorem Sep.step {h h' : Heap} {dst dst' src : Obj} (sp : Sep h dst src) (st : Step h dst h' dst') :
    Sep h' dst' src ∧ (∀ k, 0 < objCount h src k → h'.cells k = h.cells k) ∧ objView h' src = objView h src := by
  have hc : ∀ k, 0 < objCount h src k → h'.cells k = h.cells k := fun k hk =>
    st.frame k (live_lt (sp.disj k hk).1) (sp.disj k hk).2
  refine ⟨⟨ObjOK_congr sp.ok hc, ?_⟩, hc, objView_congr sp.ok hc⟩
  intro k hk
  rw [objCount_congr hc k] at hk
  obtain ⟨l, z⟩ := sp.disj k hk
  have hl := live_congr (hc k hk) (live_lt l) st.mono
  refine ⟨by rw [hl]; exact l, ?_⟩
  have := st.bal k
  rw [hl, z] at this; omega

theorem Sep.srcOK {h : Heap} {dst src : Obj} (sp : Sep h dst src) (f : Field) : SrcOK h (src.get f) :=
  StrOK_SrcOK (sp.ok.get f) fun k => strCount_le_live fun hk => (sp.disj k (objCount_pos_of_field hk h)).1

theorem Sep.na {h : Heap} {dst src : Obj} (sp : Sep h dst src) (f : Field) (k : Nat) (hk : (src.get f).str = .heap k) :
    objCount h dst k = 0 := by
  have h1 := (sp.ok.get f).heap_count hk
  exact (sp.disj k (objCount_pos_of_field (by rw [h1]; exact Nat.one_pos) h)).2

end AcqVerif.SProps
