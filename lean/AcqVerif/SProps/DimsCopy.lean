import AcqVerif.SProps.Dims
import AcqVerif.SProps.View
/-!
# Copying a dimension array element by element, and `set_dimension`
-/
namespace AcqVerif.SProps

section
variable {o src : Obj} {d sd : Nat} (hd : o.dimsData = some d) (hs : src.dimsData = some sd)
include hd hs

/-- `storage_dimension_copy(&dst[i], &src[i])`: element `i` of `o`'s array becomes equal to element `i`
of the array of the separate object `src`, the other elements are what they were -/
theorem dimensionCopy_spec {h : Heap} {i : Nat} (hok : HeapOK h) (ok : ObjOK h o) (ow : Owns h o) (sp : Sep h o src)
    (hi : i < (h.dimsOf d).length) (hsi : i < (h.dimsOf sd).length) :
    (dimensionCopy h (some d) (some sd) i).2 = true ∧
    AStep h o (dimensionCopy h (some d) (some sd) i).1 ∧
    ((dimensionCopy h (some d) (some sd) i).1.dimsOf d).map (dimView (dimensionCopy h (some d) (some sd) i).1) =
      ((h.dimsOf d).map (dimView h)).set i (dimView h (h.dimsOf sd)[i]) := by
  have pre := DPre_of_obj hd ok ow
  have hmem := List.getElem_mem hi
  have hsmem := List.getElem_mem hsi
  have ssok : StrOK h (h.dimsOf sd)[i].name := ((DimsOK_some hs).mp sp.ok.dims).2.2 _ hsmem
  -- what the source element owns is live, and nothing of `o`'s
  have slive : ∀ k, 0 < strCount (h.dimsOf sd)[i].name k → h.live k = true ∧ namesCount (h.dimsOf d) k = 0 := by
    intro k hk
    obtain ⟨l, z⟩ := sp.disj k (objCount_pos_of_dims (dimsCount_pos_of_name hs hsmem hk))
    unfold objCount at z; rw [dimsCount_some hd] at z
    exact ⟨l, by omega⟩
  have hle : ∀ k, strCount (h.dimsOf d)[i].name k ≤ namesCount (h.dimsOf d) k :=
    fun k => namesCount_mem_le _ _ hmem k
  have na : ∀ k, (h.dimsOf sd)[i].name.str = .heap k → (h.dimsOf d)[i].name.str ≠ .heap k := by
    intro k hk e
    have h1 := ssok.heap_count hk
    have h2 := (pre.names _ hmem).heap_count e
    have := (slive k (by omega)).2
    have := hle k
    omega
  obtain ⟨r1, cs⟩ := copyString_spec hok (pre.names _ hmem) (fun k => by have := pre.owns k; have := hle k; omega)
    (StrOK_SrcOK ssok fun k => strCount_le_live fun hk => (slive k hk).1) na
  obtain ⟨a, b, c, oth⟩ := AStep_store
    (x := { name := (copyString h (h.dimsOf d)[i].name (h.dimsOf sd)[i].name).2.1, kind := (h.dimsOf sd)[i].kind,
            arraySizePx := (h.dimsOf sd)[i].arraySizePx, chunkSizePx := (h.dimsOf sd)[i].chunkSizePx,
            shardSizeChunks := (h.dimsOf sd)[i].shardSizeChunks }) hd ok ow hi cs.toSStep
  unfold dimensionCopy
  rw [loadDim_some (sp.disj sd (objCount_pos_of_dims (dimsCount_data hs h))).1 i hsi]
  simp only
  rw [loadDim_some pre.live i hi]
  simp only [r1, if_true]
  refine ⟨trivial, a, ?_⟩
  rw [b, List.map_set]
  apply List.ext_getElem (by simp)
  intro j _ h2
  simp only [List.getElem_set, List.getElem_map]
  split
  · exact dimView_eq (by rw [strVal_congr_ok cs.sok c, cs.val, term_strVal_of_StrOK ssok]) rfl
  · next hij => exact dimView_congr (oth j (by simpa using h2) hij) (pre.names _ (List.getElem_mem _))

/-- the copy loop: once it has passed them, elements `0 … i+k-1` of `o`'s array equal the same elements of `src`'s -/
theorem copyLoop_spec (k : Nat) : ∀ (h : Heap) (i : Nat), HeapOK h → ObjOK h o → Owns h o → Sep h o src →
    i + k ≤ (h.dimsOf d).length → i + k ≤ (h.dimsOf sd).length →
    (∀ j, j < i → ((h.dimsOf d).map (dimView h))[j]? = ((h.dimsOf sd).map (dimView h))[j]?) →
    (copyLoop h (some d) (some sd) i k).2 = true ∧
    AStep h o (copyLoop h (some d) (some sd) i k).1 ∧
    ∀ j, j < i + k →
      (((copyLoop h (some d) (some sd) i k).1.dimsOf d).map (dimView (copyLoop h (some d) (some sd) i k).1))[j]? =
      ((h.dimsOf sd).map (dimView h))[j]? := by
  induction k with
  | zero => intro h i hok ok _ _ _ _ hz; exact ⟨rfl, AStep.refl hok ok, hz⟩
  | succ k ih =>
    intro h i hok ok ow sp hik hsk hz
    have hi : i < (h.dimsOf d).length := by omega
    have hsi : i < (h.dimsOf sd).length := by omega
    obtain ⟨ok1, s1, v1⟩ := dimensionCopy_spec hd hs hok ok ow sp hi hsi
    -- the step leaves the source as it is
    obtain ⟨sp1, hc, vs⟩ := sp.step s1.st
    have esd : (dimensionCopy h (some d) (some sd) i).1.dimsOf sd = h.dimsOf sd :=
      dimsOf_congr (hc sd (objCount_pos_of_dims (dimsCount_data hs h)))
    have esv := congrArg ObjView.dims vs
    simp only [objView, dimsView, hs] at esv
    have hlen : ((dimensionCopy h (some d) (some sd) i).1.dimsOf d).length = (h.dimsOf d).length := by
      have := congrArg List.length v1
      simpa using this
    obtain ⟨ok2, s2, v2⟩ := ih (dimensionCopy h (some d) (some sd) i).1 (i + 1) s1.st.hok s1.st.ok (s1.st.owns ow) sp1
      (by rw [hlen]; omega) (by rw [esd]; omega) fun j hj => by
        rw [esv, v1, List.getElem?_set]
        split
        · next hij => simp [← hij, hi, hsi]
        · exact hz j (by omega)
    simp only [copyLoop, ok1, if_true]
    exact ⟨ok2, s1.trans s2, fun j hj => by rw [v2 j (by omega), esv]⟩

end

/-! ### `storage_properties_set_dimension` -/

theorem setDimension_step {h : Heap} {o : Obj} (index : Int) (name : InStr) (kind a c sh : Nat)
    (hok : HeapOK h) (ok : ObjOK h o) (ow : Owns h o) (wf : name.wf = true) :
    Step h o (setDimension h o index name kind a c sh).1 (setDimension h o index name kind a c sh).2.1 := by
  unfold setDimension
  -- each of the five early returns leaves everything as it is
  split
  · exact Step.refl hok ok
  next hix =>
    split
    · exact Step.refl hok ok
    next b hp =>
      split
      · exact Step.refl hok ok
      next h2 =>
        have hb : b.length = name.nbytes := by
          unfold InStr.wf at wf; simp [hp] at wf; exact wf
        rw [load_ext h b 1 (by omega)]
        dsimp only
        split
        · exact Step.refl hok ok
        split
        · exact Step.refl hok ok
        -- the index is in range, so there is an array
        have hsz : index.toNat < o.dimsSize := by omega
        obtain ⟨d, hd⟩ : ∃ d, o.dimsData = some d := by
          cases hd : o.dimsData with
          | none => have := (DimsOK_none hd).mp ok.dims; omega
          | some d => exact ⟨d, rfl⟩
        have hlen := ((DimsOK_some hd).mp ok.dims).2.1
        rw [hd]
        generalize index.toNat = i at *
        have hi : i < (h.dimsOf d).length := by omega
        obtain ⟨s1, e1⟩ := dimensionDestroy_spec hd hok ok ow hi
        have ow1 := s1.st.owns ow
        generalize dimensionDestroy h (some d) i = h1 at *
        have hi1 : i < (h1.dimsOf d).length := by rw [e1, List.length_set]; exact hi
        have eli : (h1.dimsOf d)[i] = default := by simp [e1]
        rw [loadDim_some (ow1.live (objCount_pos_of_dims (dimsCount_data hd h1))) i hi1, eli]
        simp only
        obtain ⟨r1, cs⟩ := copyString_spec (dst := (default : Dim).name) (src := name.toStr) s1.st.hok (StrOK_default h1)
          (fun k => by rw [default_name_count]; omega) (InStr.srcOK h1 wf) (fun k hk => absurd hk (InStr.not_heap name k))
        simp only [r1, if_true]
        obtain ⟨s2, _⟩ := AStep_store
          (x := { name := (copyString h1 (default : Dim).name name.toStr).2.1, kind := kind,
                  arraySizePx := a, chunkSizePx := c, shardSizeChunks := sh })
          hd s1.st.ok ow1 hi1 (by rw [eli]; exact cs.toSStep)
        exact (s1.trans s2).st

end AcqVerif.SProps
