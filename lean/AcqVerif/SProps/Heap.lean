import AcqVerif.SProps.Model
/-!
# Heap primitives: what they do when used correctly, and the heap-level invariant

`HeapOK h`: the event log contains no `uaf`/`dfree`/`wild`/`oob`, every block that was handed
out has exactly one `alloc` event, and a block has exactly one `free` event if it is released
and none otherwise.  Under the natural preconditions (the block is live, the access is in
bounds) every primitive reduces to one of three state changes — `malloc`, `release`, `setCell`
with the `freed` flag kept — each of which preserves `HeapOK`.
-/
namespace AcqVerif.SProps

def Event.bad : Event → Bool
  | .alloc _ _ => false
  | .free _ => false
  | _ => true

def Event.isAlloc (id : Nat) : Event → Bool
  | .alloc k _ => k == id
  | _ => false

def Event.isFree (id : Nat) : Event → Bool
  | .free k => k == id
  | _ => false

structure HeapOK (h : Heap) : Prop where
  clean : ∀ e ∈ h.log, e.bad = false
  allocs : ∀ id, h.log.countP (Event.isAlloc id) = b2n (Nat.blt id h.next)
  frees : ∀ id, h.log.countP (Event.isFree id) = b2n (Nat.blt id h.next && (h.cells id).freed)

theorem blt_eq_decide (a b : Nat) : Nat.blt a b = decide (a < b) := by
  rw [Bool.eq_iff_iff]; simp [Nat.blt_eq]

theorem HeapOK_empty : HeapOK Heap.empty := by
  constructor <;> simp [Heap.empty, blt_eq_decide, b2n]

/-- mark a live block released (what `free` does to a live block) -/
def Heap.release (h : Heap) (id : Nat) : Heap :=
  (h.setCell id ⟨(h.cells id).content, true⟩).ev (.free id)

@[simp] theorem setCell_cells_same (h : Heap) (id : Nat) (c : Cell) : (h.setCell id c).cells id = c := by
  simp [Heap.setCell]

theorem setCell_cells_ne (h : Heap) (id k : Nat) (c : Cell) (hk : k ≠ id) : (h.setCell id c).cells k = h.cells k := by
  simp [Heap.setCell, hk]

@[simp] theorem setCell_next (h : Heap) (id : Nat) (c : Cell) : (h.setCell id c).next = h.next := rfl
@[simp] theorem setCell_log (h : Heap) (id : Nat) (c : Cell) : (h.setCell id c).log = h.log := rfl
@[simp] theorem ev_cells (h : Heap) (e : Event) : (h.ev e).cells = h.cells := rfl
@[simp] theorem ev_next (h : Heap) (e : Event) : (h.ev e).next = h.next := rfl
@[simp] theorem ev_log (h : Heap) (e : Event) : (h.ev e).log = e :: h.log := rfl

theorem live_iff (h : Heap) (id : Nat) : h.live id = true ↔ id < h.next ∧ (h.cells id).freed = false := by
  simp [Heap.live, Nat.blt_eq]

theorem live_lt {h : Heap} {id : Nat} (hl : h.live id = true) : id < h.next := ((live_iff h id).mp hl).1

theorem not_live_of_ge {h : Heap} {id : Nat} (hge : h.next ≤ id) : h.live id = false := by
  cases hl : h.live id with
  | false => rfl
  | true => have := live_lt hl; omega

/-- liveness of a block depends only on its cell, once it has been handed out -/
theorem live_congr {h h' : Heap} {k : Nat} (e : h'.cells k = h.cells k) (hk : k < h.next) (mono : h.next ≤ h'.next) :
    h'.live k = h.live k := by
  have hk' : k < h'.next := Nat.lt_of_lt_of_le hk mono
  simp [Heap.live, e, blt_eq_decide, hk, hk']

/-! ### `malloc` -/

@[simp] theorem malloc_id (h : Heap) (c : Content) : (h.malloc c).2 = h.next := rfl
@[simp] theorem malloc_next (h : Heap) (c : Content) : (h.malloc c).1.next = h.next + 1 := rfl
@[simp] theorem malloc_log (h : Heap) (c : Content) : (h.malloc c).1.log = .alloc h.next c.size :: h.log := rfl
@[simp] theorem malloc_cells_new (h : Heap) (c : Content) : (h.malloc c).1.cells h.next = ⟨c, false⟩ := by
  simp [Heap.malloc]

theorem malloc_cells_ne (h : Heap) (c : Content) (k : Nat) (hk : k ≠ h.next) : (h.malloc c).1.cells k = h.cells k := by
  simp [Heap.malloc, hk]

theorem malloc_cells_lt (h : Heap) (c : Content) (k : Nat) (hk : k < h.next) : (h.malloc c).1.cells k = h.cells k :=
  malloc_cells_ne h c k (by omega)

theorem blt_succ_ne {k n : Nat} (hk : k ≠ n) : Nat.blt k (n + 1) = Nat.blt k n := by
  simp only [blt_eq_decide, decide_eq_decide]; omega

theorem malloc_live (h : Heap) (c : Content) (k : Nat) :
    (h.malloc c).1.live k = if k = h.next then true else h.live k := by
  by_cases hk : k = h.next
  · subst hk; simp [Heap.live, Nat.blt_eq]
  · simp only [hk, if_false, Heap.live, malloc_next, malloc_cells_ne h c k hk, blt_succ_ne hk]

/-- `malloc` makes exactly the new block live -/
theorem malloc_bal (h : Heap) (c : Content) (k : Nat) :
    b2n ((h.malloc c).1.live k) = (if h.next = k then 1 else 0) + b2n (h.live k) := by
  rw [malloc_live]
  by_cases hk : k = h.next
  · subst hk; simp [not_live_of_ge (Nat.le_refl _), b2n]
  · simp [hk, Ne.symm hk]

theorem HeapOK_malloc {h : Heap} (ok : HeapOK h) (c : Content) : HeapOK (h.malloc c).1 := by
  refine ⟨List.forall_mem_cons.mpr ⟨rfl, ok.clean⟩, ?_, ?_⟩
  · intro id
    simp only [malloc_log, malloc_next, List.countP_cons, ok.allocs id, Event.isAlloc]
    by_cases h1 : id = h.next
    · subst h1
      simp [blt_eq_decide, b2n]
    · have : (h.next == id) = false := by simp; omega
      simp [this, blt_succ_ne h1]
  · intro id
    simp only [malloc_log, malloc_next, List.countP_cons, ok.frees id, Event.isFree]
    by_cases h1 : id = h.next
    · subst h1
      simp [blt_eq_decide, b2n]
    · rw [malloc_cells_ne h c id h1, blt_succ_ne h1]; simp

/-! ### `setCell` keeping the `freed` flag (every in-place write) -/

theorem setCell_live_ne (h : Heap) (id k : Nat) (c : Cell) (hk : k ≠ id) : (h.setCell id c).live k = h.live k := by
  simp [Heap.live, setCell_cells_ne h id k c hk]

theorem setCell_live (h : Heap) (id k : Nat) (c : Cell) (hc : c.freed = (h.cells id).freed) :
    (h.setCell id c).live k = h.live k := by
  by_cases hk : k = id
  · subst hk; simp [Heap.live, hc]
  · exact setCell_live_ne h id k c hk

theorem HeapOK_setCell {h : Heap} (ok : HeapOK h) (id : Nat) (c : Cell) (hc : c.freed = (h.cells id).freed) :
    HeapOK (h.setCell id c) := by
  constructor
  · exact ok.clean
  · exact ok.allocs
  · intro k
    simp only [setCell_log, setCell_next, ok.frees k]
    by_cases hk : k = id
    · subst hk; simp [hc]
    · rw [setCell_cells_ne h id k c hk]

/-! ### `release` -/

@[simp] theorem release_next (h : Heap) (id : Nat) : (h.release id).next = h.next := rfl
@[simp] theorem release_log (h : Heap) (id : Nat) : (h.release id).log = .free id :: h.log := rfl
@[simp] theorem release_cells_same (h : Heap) (id : Nat) : (h.release id).cells id = ⟨(h.cells id).content, true⟩ := by
  simp [Heap.release]

theorem release_cells_ne (h : Heap) (id k : Nat) (hk : k ≠ id) : (h.release id).cells k = h.cells k := by
  simp [Heap.release, setCell_cells_ne _ _ _ _ hk]

theorem release_content (h : Heap) (id k : Nat) : ((h.release id).cells k).content = (h.cells k).content := by
  by_cases hk : k = id
  · subst hk; simp
  · rw [release_cells_ne h id k hk]

theorem release_live (h : Heap) (id k : Nat) : (h.release id).live k = if k = id then false else h.live k := by
  by_cases hk : k = id
  · subst hk; simp [Heap.live]
  · simp [Heap.live, release_cells_ne h id k hk, hk]

/-- releasing a live block makes exactly that block dead -/
theorem release_bal {h : Heap} {id : Nat} (hl : h.live id = true) (k : Nat) :
    b2n (h.live k) = (if id = k then 1 else 0) + b2n ((h.release id).live k) := by
  rw [release_live]
  by_cases hk : k = id
  · subst hk; simp [hl, b2n]
  · simp [hk, Ne.symm hk]

theorem HeapOK_release {h : Heap} (ok : HeapOK h) (id : Nat) (hl : h.live id = true) : HeapOK (h.release id) := by
  obtain ⟨h1, h2⟩ := (live_iff h id).mp hl
  refine ⟨List.forall_mem_cons.mpr ⟨rfl, ok.clean⟩, ?_, ?_⟩
  · intro k
    simp only [release_log, release_next, List.countP_cons, ok.allocs k, Event.isAlloc]
    simp
  · intro k
    simp only [release_log, release_next, List.countP_cons, ok.frees k, Event.isFree]
    by_cases hk : k = id
    · subst hk
      have : Nat.blt k h.next = true := by simp [Nat.blt_eq, h1]
      simp [h2, this, b2n]
    · have : (id == k) = false := by simp; omega
      rw [release_cells_ne h id k hk]
      simp [this]

/-! ### the primitives of the model, used correctly -/

theorem touch_live {h : Heap} {id : Nat} (hl : h.live id = true) : h.touch id = h := by
  simp [Heap.touch, hl]

theorem free_live {h : Heap} {id : Nat} (hl : h.live id = true) : h.free id = h.release id := by
  obtain ⟨h1, h2⟩ := (live_iff h id).mp hl
  simp [Heap.free, h1, h2, Heap.release]

theorem load_ext (h : Heap) (b : List Byte) (n : Nat) (hn : n ≤ b.length) : h.load (.ext b) n = (h, b.take n) := by
  simp [Heap.load, hn]

theorem load_heap {h : Heap} {id : Nat} (hl : h.live id = true) (n : Nat) (hn : n ≤ (h.bytesOf id).length) :
    h.load (.heap id) n = (h, (h.bytesOf id).take n) := by
  simp [Heap.load, touch_live hl, hn]

theorem store_heap {h : Heap} {id : Nat} (hl : h.live id = true) (off : Nat) (bs : List Byte)
    (hn : off + bs.length ≤ (h.bytesOf id).length) :
    h.store (.heap id) off bs =
      h.setCell id ⟨.bytes ((h.bytesOf id).take off ++ bs ++ (h.bytesOf id).drop (off + bs.length)), false⟩ := by
  obtain ⟨_, h2⟩ := (live_iff h id).mp hl
  simp [Heap.store, touch_live hl, hn, h2]

theorem loadDim_some {h : Heap} {id : Nat} (hl : h.live id = true) (i : Nat) (hi : i < (h.dimsOf id).length) :
    h.loadDim (some id) i = (h, (h.dimsOf id)[i]) := by
  simp [Heap.loadDim, touch_live hl, hi]

theorem storeDim_some {h : Heap} {id : Nat} (hl : h.live id = true) (i : Nat) (d : Dim) (hi : i < (h.dimsOf id).length) :
    h.storeDim (some id) i d = h.setCell id ⟨.dims ((h.dimsOf id).set i d), false⟩ := by
  obtain ⟨_, h2⟩ := (live_iff h id).mp hl
  simp [Heap.storeDim, touch_live hl, hi, h2]

theorem bytesOf_setCell_ne (h : Heap) (id k : Nat) (c : Cell) (hk : k ≠ id) : (h.setCell id c).bytesOf k = h.bytesOf k := by
  simp [Heap.bytesOf, setCell_cells_ne h id k c hk]

@[simp] theorem bytesOf_setCell_same (h : Heap) (id : Nat) (b : List Byte) (f : Bool) :
    (h.setCell id ⟨.bytes b, f⟩).bytesOf id = b := by
  simp [Heap.bytesOf]

@[simp] theorem dimsOf_setCell_same (h : Heap) (id : Nat) (d : List Dim) (f : Bool) :
    (h.setCell id ⟨.dims d, f⟩).dimsOf id = d := by
  simp [Heap.dimsOf]

theorem dimsOf_setCell_ne (h : Heap) (id k : Nat) (c : Cell) (hk : k ≠ id) : (h.setCell id c).dimsOf k = h.dimsOf k := by
  simp [Heap.dimsOf, setCell_cells_ne h id k c hk]

theorem setCell_setCell (h : Heap) (id : Nat) (a b : Cell) : (h.setCell id a).setCell id b = h.setCell id b := by
  simp only [Heap.setCell]
  congr 1
  funext k
  by_cases hk : k = id <;> simp [hk]

/-- a second write into a block whose bytes have just been set -/
theorem store_setCell {h : Heap} {id : Nat} (hl : h.live id = true) (b : List Byte) (off : Nat) (bs : List Byte)
    (hn : off + bs.length ≤ b.length) :
    (h.setCell id ⟨.bytes b, false⟩).store (.heap id) off bs =
      h.setCell id ⟨.bytes (b.take off ++ bs ++ b.drop (off + bs.length)), false⟩ := by
  have hfr : (false : Bool) = (h.cells id).freed := ((live_iff h id).mp hl).2.symm
  rw [store_heap (by rw [setCell_live h id id _ hfr]; exact hl) off bs (by simpa using hn), setCell_setCell,
    bytesOf_setCell_same]

theorem bytesOf_congr {h h' : Heap} {k : Nat} (e : h'.cells k = h.cells k) : h'.bytesOf k = h.bytesOf k := by
  simp [Heap.bytesOf, e]

theorem dimsOf_congr {h h' : Heap} {k : Nat} (e : h'.cells k = h.cells k) : h'.dimsOf k = h.dimsOf k := by
  simp [Heap.dimsOf, e]

theorem bytesOf_release (h : Heap) (id k : Nat) : (h.release id).bytesOf k = h.bytesOf k := by
  simp [Heap.bytesOf, release_content]

theorem dimsOf_release (h : Heap) (id k : Nat) : (h.release id).dimsOf k = h.dimsOf k := by
  simp [Heap.dimsOf, release_content]

@[simp] theorem bytesOf_malloc_new (h : Heap) (b : List Byte) : (h.malloc (.bytes b)).1.bytesOf h.next = b := by
  simp [Heap.bytesOf]

@[simp] theorem dimsOf_malloc_new (h : Heap) (d : List Dim) : (h.malloc (.dims d)).1.dimsOf h.next = d := by
  simp [Heap.dimsOf]

end AcqVerif.SProps
