import AcqVerif.Tiff.Model
import AcqVerif.Tiff.Read
/-!
# Byte-level lemmas: little-endian encode/decode, `pwrite`, and "the file holds these bytes here"
-/
namespace AcqVerif.Tiff
open AcqVerif.TiffRead (decodeLE slice? rdLE)

@[simp] theorem leBytes_length (n v : Nat) : (leBytes n v).length = n := by
  induction n generalizing v with
  | zero => rfl
  | succ n ih => simp [leBytes, ih]

@[simp] theorem zeros_length (n : Nat) : (zeros n).length = n := by simp [zeros]

theorem decodeLE_leBytes (n v : Nat) : decodeLE (leBytes n v) = v % 256 ^ n := by
  induction n generalizing v with
  | zero => simp [leBytes, decodeLE, Nat.mod_one]
  | succ n ih =>
    simp only [leBytes, decodeLE, ih]
    have h1 : (UInt8.ofNat (v % 256)).toNat = v % 256 := by
      simp [UInt8.toNat_ofNat']
    rw [h1, Nat.pow_succ, Nat.mul_comm (256 ^ n) 256, Nat.mod_mul]

theorem decodeLE_leBytes_lt (n v : Nat) (h : v < 256 ^ n) : decodeLE (leBytes n v) = v := by
  rw [decodeLE_leBytes, Nat.mod_eq_of_lt h]

theorem decodeLE_append_zeros (b : Bytes) (k : Nat) : decodeLE (b ++ zeros k) = decodeLE b := by
  induction b with
  | nil =>
    induction k with
    | zero => rfl
    | succ k ih => simp [zeros, List.replicate_succ, decodeLE] at *; simp [ih]
  | cons x r ih => simp [decodeLE, ih]

theorem align8_ge (v : Nat) : v ≤ align8 v := by unfold align8; omega
theorem align8_lt (v : Nat) : align8 v < v + 8 := by unfold align8; omega
theorem align8_align8 (v : Nat) : align8 (align8 v) = align8 v := by unfold align8; omega
theorem align8_mono {a b : Nat} (h : a ≤ b) : align8 a ≤ align8 b := by unfold align8; omega

/-! ## `Holds f off d` : the file `f` contains the bytes `d` at offset `off` -/

def Holds (f : Bytes) (off : Nat) (d : Bytes) : Prop := ∀ i, i < d.length → f[off + i]? = d[i]?

theorem Holds.nil (f : Bytes) (off : Nat) : Holds f off [] := by intro i h; simp at h

theorem Holds.bound {f : Bytes} {off : Nat} {d : Bytes} (h : Holds f off d) (hd : d ≠ []) :
    off + d.length ≤ f.length := by
  have hl : 0 < d.length := List.length_pos_iff.mpr hd
  have := h (d.length - 1) (by omega)
  rw [List.getElem?_eq_getElem (l := d) (by omega)] at this
  have := (List.getElem?_eq_some_iff.mp this).1
  omega

theorem Holds.bound_snoc {f : Bytes} {off : Nat} {d : Bytes} {x : UInt8} (h : Holds f off (d ++ [x])) :
    off + (d.length + 1) ≤ f.length := by
  simpa using h.bound (by simp)

theorem holds_append {f : Bytes} {off : Nat} {a b : Bytes} :
    Holds f off (a ++ b) ↔ Holds f off a ∧ Holds f (off + a.length) b := by
  simp only [Holds, List.length_append]
  constructor
  · intro h
    refine ⟨fun i hi => ?_, fun i hi => ?_⟩
    · rw [h i (by omega), List.getElem?_append_left hi]
    · rw [Nat.add_assoc, h _ (by omega), List.getElem?_append_right (by omega), Nat.add_sub_cancel_left]
  · intro ⟨ha, hb⟩ i hi
    by_cases hlt : i < a.length
    · rw [ha i hlt, List.getElem?_append_left hlt]
    · rw [List.getElem?_append_right (by omega), ← hb _ (by omega)]
      congr 1; omega

theorem Holds.slice {f : Bytes} {off n : Nat} {d : Bytes} (h : Holds f off d) (hn : n = d.length)
    (hb : off + d.length ≤ f.length) : slice? f off n = some d := by
  subst hn
  unfold slice?
  rw [if_pos hb]
  congr 1
  apply List.ext_getElem?
  intro i
  by_cases hi : i < d.length
  · rw [List.getElem?_take_of_lt hi, List.getElem?_drop, h i hi]
  · rw [List.getElem?_take_eq_none (by omega)]
    simp at hi
    exact (List.getElem?_eq_none hi).symm

theorem Holds.rdLE {f : Bytes} {off n v : Nat} (h : Holds f off (leBytes n v)) (hn : 0 < n) (hv : v < 256 ^ n) :
    rdLE f off n = some v := by
  have hl := leBytes_length n v
  have hb := h.bound (List.ne_nil_of_length_pos (by omega))
  simp [AcqVerif.TiffRead.rdLE, h.slice hl.symm hb, decodeLE_leBytes_lt n v hv]

/-! ## `pwrite` -/

theorem pwrite_nil (f : Bytes) (off : Nat) : pwrite f off [] = f := by simp [pwrite]

theorem pwrite_nil_zero (d : Bytes) : pwrite [] 0 d = d := by
  unfold pwrite; cases d <;> simp [zeros]

theorem pwrite_of_ne {d : Bytes} (hd : d ≠ []) (f : Bytes) (off : Nat) :
    ∃ pre, pre.length = off ∧ (∀ i, i < off → i < f.length → pre[i]? = f[i]?) ∧
      pwrite f off d = pre ++ (d ++ f.drop (off + d.length)) := by
  refine ⟨(f ++ zeros (off - f.length)).take off, by simp; omega, fun i hi hf => ?_, ?_⟩
  · rw [List.getElem?_take_of_lt hi, List.getElem?_append_left hf]
  · cases d with
    | nil => exact absurd rfl hd
    | cons x r => simp [pwrite]

theorem pwrite_length (f : Bytes) (off : Nat) (d : Bytes) (hd : d ≠ []) :
    (pwrite f off d).length = max f.length (off + d.length) := by
  obtain ⟨pre, hl, -, h⟩ := pwrite_of_ne hd f off
  rw [h]
  simp only [List.length_append, List.length_drop, hl]
  omega

theorem pwrite_length_ge (f : Bytes) (off : Nat) (d : Bytes) : f.length ≤ (pwrite f off d).length := by
  by_cases hd : d = []
  · rw [hd, pwrite_nil]; exact Nat.le_refl _
  · rw [pwrite_length f off d hd]; omega

theorem pwrite_get_inside (f : Bytes) (off : Nat) (d : Bytes) (i : Nat) (hi : i < d.length) :
    (pwrite f off d)[off + i]? = d[i]? := by
  obtain ⟨pre, hl, -, h⟩ := pwrite_of_ne (d := d) (List.ne_nil_of_length_pos (by omega)) f off
  rw [h, List.getElem?_append_right (by omega), hl, Nat.add_sub_cancel_left, List.getElem?_append_left hi]

theorem pwrite_get_before (f : Bytes) (off : Nat) (d : Bytes) (i : Nat) (hi : i < off) (hf : i < f.length) :
    (pwrite f off d)[i]? = f[i]? := by
  by_cases hd : d = []
  · rw [hd, pwrite_nil]
  · obtain ⟨pre, hl, hp, h⟩ := pwrite_of_ne hd f off
    rw [h, List.getElem?_append_left (by omega), hp i hi hf]

theorem pwrite_get_after (f : Bytes) (off : Nat) (d : Bytes) (i : Nat) (hi : off + d.length ≤ i) :
    (pwrite f off d)[i]? = f[i]? := by
  by_cases hd : d = []
  · rw [hd, pwrite_nil]
  · obtain ⟨pre, hl, -, h⟩ := pwrite_of_ne hd f off
    rw [h, List.getElem?_append_right (by omega), hl, List.getElem?_append_right (by omega), List.getElem?_drop]
    congr 1; omega

theorem holds_pwrite_self (f : Bytes) (off : Nat) (d : Bytes) : Holds (pwrite f off d) off d := by
  intro i hi; exact pwrite_get_inside f off d i hi

theorem holds_pwrite_of_disjoint {f : Bytes} {o : Nat} {d' : Bytes} (h : Holds f o d') (off : Nat) (d : Bytes)
    (hdis : o + d'.length ≤ off ∨ off + d.length ≤ o) : Holds (pwrite f off d) o d' := by
  intro i hi
  have hb := h.bound (List.ne_nil_of_length_pos (by omega))
  rcases hdis with hd | hd
  · rw [pwrite_get_before f off d (o + i) (by omega) (by omega)]; exact h i hi
  · rw [pwrite_get_after f off d (o + i) (by omega)]; exact h i hi

end AcqVerif.Tiff
