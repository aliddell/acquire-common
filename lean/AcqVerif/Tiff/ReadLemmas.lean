import AcqVerif.Tiff.WriteLemmas
/-!
# The independent reader on a file that holds the writer's structures
-/
namespace AcqVerif.Tiff
open AcqVerif.TiffRead

/-- a tag as the reader sees it -/
def toEntry (t : Tag) : Entry := ⟨t.tag, t.type, t.count, t.value⟩

theorem readEntry_of_holds {F : Bytes} {off : Nat} {t : Tag} (h : Holds F off t.encode) (ht : t.Small) :
    readEntry F off = some (toEntry t) := by
  rw [Tag.encode, holds_append, holds_append, holds_append] at h
  obtain ⟨⟨⟨h1, h2⟩, h3⟩, h4⟩ := h
  simp only [List.length_append, leBytes_length, Nat.reduceAdd] at h2 h3 h4
  have r1 := h1.rdLE (by omega) (by have := ht.tag; omega)
  have r2 := h2.rdLE (by omega) (by have := ht.type; omega)
  have r3 := h3.rdLE (by omega) (by have := ht.count; omega)
  have r4 := h4.slice ht.value.symm (h4.bound (List.ne_nil_of_length_pos (by have := ht.value; omega)))
  simp [readEntry, r1, r2, r3, r4, toEntry]

theorem readEntries_of_holds {F : Bytes} (tags : List Tag) (off : Nat)
    (h : Holds F off (tags.map Tag.encode).flatten) (ht : ∀ t ∈ tags, t.Small) :
    readEntries F off tags.length = some (tags.map toEntry) := by
  induction tags generalizing off with
  | nil => rfl
  | cons t ts ih =>
    rw [List.map_cons, List.flatten_cons, holds_append] at h
    have hs := ht t (List.mem_cons_self)
    rw [tag_encode_length t hs.value] at h
    have r1 := readEntry_of_holds h.1 hs
    have r2 := ih (off + 20) h.2 (fun t ht' => ht t (List.mem_cons_of_mem _ ht'))
    simp [readEntries, r1, r2]

theorem readIfd_of_holds {F : Bytes} (tags : List Tag) (off nxt : Nat)
    (hb : Holds F off (ifdBody tags)) (hn : Holds F (off + (8 + 20 * tags.length)) (leBytes 8 nxt))
    (ht : ∀ t ∈ tags, t.Small) (hl : tags.length < 2 ^ 64) (hnx : nxt < 2 ^ 64) :
    readIfd F off = some (tags.map toEntry, nxt) := by
  rw [ifdBody, holds_append, leBytes_length] at hb
  have r1 := hb.1.rdLE (by omega) (by omega)
  have r2 := readEntries_of_holds tags (off + 8) hb.2 ht
  have r3 := hn.rdLE (by omega) (by omega)
  simp [readIfd, r1, r2, r3, Nat.add_assoc]

/-! ## the entries of a directory the writer produced -/

section scalar
variable {es : List Entry} {id v : Nat}

theorem scalar_asU16 (h : findEntry es id = some (toEntry (asU16 id v))) (hv : v < 2 ^ 16) : scalar es id = some v := by
  simp [scalar, h, toEntry, asU16, K.asU16, decodeLE_leBytes_lt 2 v hv]

theorem scalar_asU32 (h : findEntry es id = some (toEntry (asU32 id v))) (hv : v < 2 ^ 32) : scalar es id = some v := by
  simp [scalar, h, toEntry, asU32, K.asU32, decodeLE_leBytes_lt 4 v hv]

theorem scalar_asU64 (h : findEntry es id = some (toEntry (asU64 id v))) (hv : v < 2 ^ 64) : scalar es id = some v := by
  simp [scalar, h, toEntry, asU64, K.asU64, decodeLE_leBytes_lt 8 v hv]

end scalar

theorem bits_small : ∀ t, t < K.sampleTypeCount → (8 * bytesOfType t) % 2 ^ 16 = 8 * bytesOfType t := by decide

theorem sampleFormatCode_small (t : Nat) : sampleFormatCode t < 2 ^ 16 := by
  unfold sampleFormatCode; repeat' split
  all_goals omega

theorem xResolution_tag (n d : Nat) : (xResolution n d).tag = 282 := by
  unfold xResolution; split <;> rfl

/-- as written, the `den == 0` branch of `y_resolution` uses the id of XResolution -/
theorem yResolution_tag (n d : Nat) : (yResolution n d).tag ∈ [282, 283] := by
  unfold yResolution; split
  · exact List.mem_cons_self
  · exact List.mem_cons_of_mem _ List.mem_cons_self

theorem lookup_by_ids (tags : List Tag) (id : Nat) :
    findEntry (tags.map toEntry) id = (tags[(tags.map (·.tag)).idxOf id]?).map toEntry ∧
      entryIndex (tags.map toEntry) id = (tags.map (·.tag)).idxOf id := by
  induction tags with
  | nil => exact ⟨rfl, rfl⟩
  | cons t ts ih =>
    simp only [findEntry, entryIndex, List.map_cons, List.find?_cons, List.findIdx_cons, List.idxOf_cons] at ih ⊢
    cases hb : t.tag == id <;> simp [toEntry, hb, ih]

/-- the ids of a directory in the order `Tiff::append` assembles it; `y` is the id of the YResolution entry -/
def ifdIds (y : Nat) : List Nat := [256, 257, 258, 259, 262, 273, 278, 279, 282, y, 296, 274, 339, 277, 254, 270]

section page
variable (cfg : Cfg) (f : Frame) (L : Layout) (desc : Bytes)

/-- `hi` is asked for both ids the YResolution entry can carry, so that it is closed and `decide` settles it -/
theorem lookup_ifdTags (id i : Nat) {t : Tag} (ht : (ifdTags cfg f L desc)[i]? = some t)
    (hi : ∀ y ∈ [282, 283], (ifdIds y).idxOf id = i := by decide) :
    findEntry ((ifdTags cfg f L desc).map toEntry) id = some (toEntry t) ∧
      entryIndex ((ifdTags cfg f L desc).map toEntry) id = i := by
  have hids : (ifdTags cfg f L desc).map (·.tag) = ifdIds (yResolution (10000 * 10000) (resolutionDen cfg.scaleMilliY)).tag := by
    simp only [ifdTags, fixedTags, List.map_append, List.map_cons, List.map_nil, xResolution_tag]
    rfl
  have := lookup_by_ids (ifdTags cfg f L desc) id
  rwa [hids, hi _ (yResolution_tag _ _), ht] at this

theorem entryIndex_desc : entryIndex ((ifdTags cfg f L desc).map toEntry) 270 = 15 :=
  (lookup_ifdTags cfg f L desc 270 15 (t := descTag L.strOff desc) rfl).2

end page

theorem descOf_length (cfg : Cfg) (idx : Nat) (f : Frame) : 7 < (descOf cfg idx f).length := by
  have : sFrameId.length = 12 := rfl
  unfold descOf descMeta descPlain
  split <;> simp only [List.length_append] <;> omega

theorem mkPage_of_holds {F : Bytes} (cfg : Cfg) (idx : Nat) (f : Frame) (L : Layout) (nxt : Nat)
    (hw : f.WF) (hdata : Holds F L.dataOff f.data) (hstr : Holds F L.strOff (descOf cfg idx f ++ [0]))
    (hds : L.dataOff + f.data.length ≤ L.strOff) (hs64 : L.strOff + ((descOf cfg idx f).length + 1) < 2 ^ 64) :
    mkPage F L.ifdOff ((ifdTags cfg f L (descOf cfg idx f)).map toEntry) nxt = some (pageOf cfg idx f L nxt) := by
  have hsb := hstr.bound_snoc
  have hdl := descOf_length cfg idx f
  have find (id i : Nat) {t : Tag} := @lookup_ifdTags cfg f L (descOf cfg idx f) id i t
  have r1 := scalar_asU32 (find 256 0 rfl).1 hw.width
  have r2 := scalar_asU32 (find 257 1 rfl).1 hw.height
  have r3 := scalar_asU16 (find 258 2 rfl).1 (Nat.mod_lt _ (by decide))
  rw [bits_small f.type hw.type] at r3
  have r4 := scalar_asU16 (find 339 12 rfl).1 (sampleFormatCode_small f.type)
  have r5 := scalar_asU64 (find 273 5 rfl).1 (by omega)
  have r6 := scalar_asU64 (find 279 7 rfl).1 (by omega)
  have r7 := hdata.slice rfl (by omega)
  have r8 := (find 270 15 (t := descTag L.strOff (descOf cfg idx f)) rfl).1
  have r9 := hstr.slice (n := (descOf cfg idx f).length + 1) (by simp) (by simpa using hsb)
  have r10 := decodeLE_leBytes_lt 8 L.strOff (by omega)
  have hni : ¬ ((descOf cfg idx f).length + 1 ≤ 8) := by omega
  simp [mkPage, r1, r2, r3, r4, r5, r6, r7, r8, toEntry, descTag, K.imageDescriptionLong10, hni, r10, r9, pageOf,
    ifdTags_length, K.ntags]

/-! ## following the chain -/

theorem readChain_mono (F : Bytes) (n k off : Nat) (ps : List Page) (h : readChain F n off = some ps) :
    readChain F (n + k) off = some ps := by
  induction n generalizing off ps with
  | zero => simp [readChain] at h
  | succ n ih =>
    rw [Nat.add_right_comm]
    simp only [readChain] at h ⊢
    split
    · simp_all
    · rename_i hne
      simp only [if_neg hne, Option.bind_eq_bind, Option.bind_eq_some_iff] at h ⊢
      obtain ⟨r, hr, page, hp, rest, hc, hps⟩ := h
      exact ⟨r, hr, page, hp, rest, ih _ _ hc, hps⟩

/-- where the chain starts: the first directory, or 0 for no frames -/
def chainStart (last : Nat) (frames : List Frame) : Nat := if frames.isEmpty then 0 else align8 last

theorem chainStart_of_ne {frames : List Frame} (hne : frames ≠ []) (last : Nat) : chainStart last frames = align8 last := by
  simp [chainStart, hne]

theorem chainStart_next (cfg : Cfg) (last idx : Nat) (f : Frame) (rest : List Frame) :
    chainStart (frameLayout cfg last idx f).next rest = if rest.isEmpty then 0 else (frameLayout cfg last idx f).next := by
  simp only [chainStart, frameLayout, layout, align8_align8]

theorem readChain_of_framesIn {F : Bytes} (cfg : Cfg) (last idx : Nat) (frames : List Frame)
    (h : FramesIn F cfg 0 last idx frames) (hw : ∀ f ∈ frames, f.WF) (h64 : endOff cfg last idx frames < 2 ^ 64)
    (hl : 0 < last) :
    readChain F (frames.length + 1) (chainStart last frames) = some (pagesFrom cfg last idx frames) := by
  induction frames generalizing last idx with
  | nil => simp [readChain, chainStart, pagesFrom]
  | cons f rest ih =>
    have ho := frameLayout_order cfg last idx f
    obtain ⟨hbody, hnext, hdata, hstr, hrest⟩ := h
    have hend := endOff_ge cfg (frameLayout cfg last idx f).next (idx + 1) rest
    rw [endOff_cons] at h64
    have hlen := ifdTags_length cfg f (frameLayout cfg last idx f) (descOf cfg idx f)
    have rifd := readIfd_of_holds _ _ _ hbody (by rw [hlen]; exact hnext)
      (ifdTags_small cfg f _ _ (by omega)) (by rw [hlen]; decide) (by split <;> omega)
    have rpage := mkPage_of_holds cfg idx f _ (if rest.isEmpty then 0 else (frameLayout cfg last idx f).next)
      (hw f List.mem_cons_self) hdata hstr ho.2.2.1 (by omega)
    have hrec := ih _ (idx + 1) hrest (fun g hg => hw g (List.mem_cons_of_mem _ hg)) h64 (by omega)
    rw [chainStart_next] at hrec
    have hne : (frameLayout cfg last idx f).ifdOff ≠ 0 := by omega
    show readChain F (rest.length + 1 + 1) (frameLayout cfg last idx f).ifdOff = _
    rw [readChain, if_neg hne]
    simp only [List.isEmpty_iff] at rifd rpage hrec
    simp [rifd, rpage, hrec, pagesFrom]

theorem readHeader_of_holds {F : Bytes} (h : Holds F 0 header) : readHeader F = some K.hdrFirstIfd := by
  rw [header, holds_append, holds_append, holds_append, holds_append] at h
  obtain ⟨⟨⟨⟨h1, h2⟩, h3⟩, h4⟩, h5⟩ := h
  simp only [List.length_append, leBytes_length, Nat.zero_add] at h2 h3 h4 h5
  have r1 := h1.rdLE (by omega) (by decide)
  have r2 := h2.rdLE (by omega) (by decide)
  have r3 := h3.rdLE (by omega) (by decide)
  have r4 := h4.rdLE (by omega) (by decide)
  have r5 := h5.rdLE (by omega) (by decide)
  simp [readHeader, r1, r2, r3, r4, r5, K.hdrFmt, K.hdrVer, K.hdrSizeofOffset, K.hdrZero]

/-- every frame takes at least a byte: the file is longer than the number of frames -/
theorem framesIn_length {F : Bytes} (cfg : Cfg) (fin last idx : Nat) (frames : List Frame)
    (h : FramesIn F cfg fin last idx frames) : frames.length ≤ F.length - last := by
  induction frames generalizing last idx with
  | nil => exact Nat.zero_le _
  | cons f rest ih =>
    have ho := frameLayout_order cfg last idx f
    obtain ⟨_, _, _, hstr, hrest⟩ := h
    have hsb := hstr.bound_snoc
    have := ih _ _ hrest
    rw [List.length_cons]
    omega

/-- **round trip**: the reader applied to the file of an acquisition returns the expected pages -/
theorem readTiff_tiffFile (old : Bytes) (cfg : Cfg) (frames : List Frame) (hne : frames ≠ [])
    (hw : ∀ f ∈ frames, f.WF) (h64 : endOff cfg K.sizeofHeader 0 frames < 2 ^ 64) :
    readTiff (tiffFile old cfg frames) = some (expectedPages cfg frames) := by
  obtain ⟨hh, hf⟩ := tiffFile_holds old cfg frames hne
  have r2 := readChain_of_framesIn cfg K.sizeofHeader 0 frames hf hw h64 (by decide)
  have hlen := framesIn_length cfg 0 K.sizeofHeader 0 frames hf
  rw [chainStart_of_ne hne] at r2
  simp only [readTiff, readHeader_of_holds hh, Option.bind_eq_bind, Option.bind_some]
  rw [show (tiffFile old cfg frames).length + 1 =
    (frames.length + 1) + ((tiffFile old cfg frames).length - frames.length) by omega]
  exact readChain_mono _ _ _ _ _ r2

end AcqVerif.Tiff
