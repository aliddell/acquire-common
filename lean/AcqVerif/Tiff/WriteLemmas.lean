import AcqVerif.Tiff.Layout
import AcqVerif.Tiff.BytesLemmas
/-!
# From the writes of an acquisition to "the final file holds every structure"

`FramesIn F cfg fin last idx frames` says that the file `F` contains, for every
frame, the directory (tags, then the `next` link), the strip and the string
section at the offsets of the layout, the last link being `fin`.  It is
established for the file produced by `tiffWrites` with `fin = 0`.
-/
namespace AcqVerif.Tiff

/-- offsets increase and the writes do not overlap: each starts at or after the end of the previous -/
def SortedFrom : Nat → List (Nat × Bytes) → Prop
  | _, [] => True
  | lo, w :: rest => lo ≤ w.1 ∧ SortedFrom (w.1 + w.2.length) rest

theorem applyWrites_cons (f : Bytes) (w : Nat × Bytes) (ws : List (Nat × Bytes)) :
    applyWrites f (w :: ws) = applyWrites (pwrite f w.1 w.2) ws := rfl

theorem applyWrites_append (f : Bytes) (a b : List (Nat × Bytes)) :
    applyWrites f (a ++ b) = applyWrites (applyWrites f a) b := by
  simp [applyWrites, List.foldl_append]

theorem applyWrites_length_ge (f : Bytes) (ws : List (Nat × Bytes)) : f.length ≤ (applyWrites f ws).length := by
  induction ws generalizing f with
  | nil => exact Nat.le_refl _
  | cons w ws ih => exact Nat.le_trans (pwrite_length_ge f w.1 w.2) (ih _)

theorem applyWrites_preserves {lo : Nat} {ws : List (Nat × Bytes)} (hs : SortedFrom lo ws) {f : Bytes} {o : Nat}
    {d : Bytes} (h : Holds f o d) (hlo : o + d.length ≤ lo) : Holds (applyWrites f ws) o d := by
  induction ws generalizing f lo with
  | nil => exact h
  | cons w ws ih =>
    obtain ⟨h1, h2⟩ := hs
    exact ih h2 (holds_pwrite_of_disjoint h w.1 w.2 (Or.inl (by omega))) (by omega)

theorem applyWrites_holds {lo : Nat} {ws : List (Nat × Bytes)} (hs : SortedFrom lo ws) (f : Bytes) :
    ∀ w ∈ ws, Holds (applyWrites f ws) w.1 w.2 := by
  induction ws generalizing f lo with
  | nil => exact fun _ hw => nomatch hw
  | cons w ws ih =>
    exact List.forall_mem_cons.mpr
      ⟨applyWrites_preserves hs.2 (holds_pwrite_self f w.1 w.2) (Nat.le_refl _), ih hs.2 _⟩

/-! ## sizes -/

theorem tag_encode_length (t : Tag) (h : t.value.length = 8) : t.encode.length = 20 := by
  simp [Tag.encode, h]

/-- `ntags` and the tags -/
def ifdBody (tags : List Tag) : Bytes := leBytes 8 tags.length ++ (tags.map Tag.encode).flatten

theorem encodeIfd_eq (tags : List Tag) (next : Nat) : encodeIfd tags next = ifdBody tags ++ leBytes 8 next := rfl

/-- the fields of a tag fit a directory entry: 16-bit id and type, 64-bit count, the 8-byte value union -/
structure Tag.Small (t : Tag) : Prop where
  tag : t.tag < 2 ^ 16
  type : t.type < 2 ^ 16
  count : t.count < 2 ^ 64
  value : t.value.length = 8

theorem asU16_small {id : Nat} (v : Nat) (h : id < 2 ^ 16) : (asU16 id v).Small :=
  ⟨h, (by decide : K.asU16.2.1 < 2 ^ 16), (by decide : K.asU16.2.2 < 2 ^ 64), rfl⟩

theorem asU32_small {id : Nat} (v : Nat) (h : id < 2 ^ 16) : (asU32 id v).Small :=
  ⟨h, (by decide : K.asU32.2.1 < 2 ^ 16), (by decide : K.asU32.2.2 < 2 ^ 64), rfl⟩

theorem asU64_small {id : Nat} (v : Nat) (h : id < 2 ^ 16) : (asU64 id v).Small :=
  ⟨h, (by decide : K.asU64.2.1 < 2 ^ 16), (by decide : K.asU64.2.2 < 2 ^ 64), rfl⟩

theorem asRational_small {id : Nat} (num den : Nat) (h : id < 2 ^ 16) : (asRational id num den).Small :=
  ⟨h, (by decide : K.asRational.2.1 < 2 ^ 16), (by decide : K.asRational.2.2 < 2 ^ 64), rfl⟩

theorem xResolution_small (n d : Nat) : (xResolution n d).Small := by
  unfold xResolution; split <;> exact asRational_small _ _ (by decide)

theorem yResolution_small (n d : Nat) : (yResolution n d).Small := by
  unfold yResolution; split <;> exact asRational_small _ _ (by decide)

theorem fixedTags_small (sx sy : Nat) (f : Frame) (dataOff : Nat) : ∀ t ∈ fixedTags sx sy f dataOff, t.Small := by
  simp only [fixedTags, List.forall_mem_cons, List.not_mem_nil, false_imp_iff, implies_true, and_true]
  exact ⟨asU32_small _ (by decide), asU32_small _ (by decide), asU16_small _ (by decide), asU16_small _ (by decide),
    asU16_small _ (by decide), asU64_small _ (by decide), asU32_small _ (by decide), asU64_small _ (by decide),
    xResolution_small _ _, yResolution_small _ _, asU16_small _ (by decide), asU16_small _ (by decide),
    asU16_small _ (by decide), asU16_small _ (by decide), asU32_small _ (by decide)⟩

theorem descTag_small (strOff : Nat) (desc : Bytes) (hc : desc.length + 1 < 2 ^ 64) : (descTag strOff desc).Small :=
  ⟨(by decide : K.imageDescriptionLong10.1 < 2 ^ 16), (by decide : K.imageDescriptionLong10.2.1 < 2 ^ 16), hc, rfl⟩

theorem ifdTags_small (cfg : Cfg) (f : Frame) (L : Layout) (desc : Bytes) (hc : desc.length + 1 < 2 ^ 64) :
    ∀ t ∈ ifdTags cfg f L desc, t.Small :=
  List.forall_mem_append.mpr ⟨fixedTags_small _ _ _ _, List.forall_mem_singleton.mpr (descTag_small _ _ hc)⟩

theorem ifdTags_values (cfg : Cfg) (f : Frame) (L : Layout) (desc : Bytes) :
    ∀ t ∈ ifdTags cfg f L desc, t.value.length = 8 :=
  List.forall_mem_append.mpr ⟨fun t h => (fixedTags_small _ _ _ _ t h).value, List.forall_mem_singleton.mpr rfl⟩

theorem ifdTags_length (cfg : Cfg) (f : Frame) (L : Layout) (desc : Bytes) : (ifdTags cfg f L desc).length = 16 := by
  simp [ifdTags, fixedTags]

theorem flatten_encode_length (tags : List Tag) (h : ∀ t ∈ tags, t.value.length = 8) :
    (tags.map Tag.encode).flatten.length = 20 * tags.length := by
  induction tags with
  | nil => rfl
  | cons t ts ih =>
    simp only [List.map_cons, List.flatten_cons, List.length_append, List.length_cons]
    rw [tag_encode_length t (h t (List.mem_cons_self)), ih (fun t ht => h t (List.mem_cons_of_mem _ ht))]
    omega

theorem ifdBody_length (cfg : Cfg) (f : Frame) (L : Layout) (desc : Bytes) :
    (ifdBody (ifdTags cfg f L desc)).length = K.offsetofNext := by
  simp only [ifdBody, List.length_append, leBytes_length]
  rw [flatten_encode_length _ (ifdTags_values cfg f L desc), ifdTags_length]
  rfl

theorem encodeIfd_length (cfg : Cfg) (f : Frame) (L : Layout) (desc : Bytes) (next : Nat) :
    (encodeIfd (ifdTags cfg f L desc) next).length = K.sizeofIfd := by
  rw [encodeIfd_eq, List.length_append, ifdBody_length, leBytes_length]; rfl

/-! ## the layout is ordered -/

theorem frameLayout_order (cfg : Cfg) (last idx : Nat) (f : Frame) :
    last ≤ (frameLayout cfg last idx f).ifdOff ∧
      (frameLayout cfg last idx f).ifdOff + K.sizeofIfd ≤ (frameLayout cfg last idx f).dataOff ∧
      (frameLayout cfg last idx f).dataOff + f.data.length ≤ (frameLayout cfg last idx f).strOff ∧
      (frameLayout cfg last idx f).strOff + ((descOf cfg idx f).length + 1) ≤ (frameLayout cfg last idx f).next :=
  ⟨align8_ge _, align8_ge _, align8_ge _, align8_ge _⟩

theorem endOff_cons (cfg : Cfg) (last idx : Nat) (f : Frame) (rest : List Frame) :
    endOff cfg last idx (f :: rest) = endOff cfg (frameLayout cfg last idx f).next (idx + 1) rest := rfl

theorem endOff_ge (cfg : Cfg) (last idx : Nat) (frames : List Frame) : last ≤ endOff cfg last idx frames := by
  induction frames generalizing last idx with
  | nil => exact Nat.le_refl _
  | cons f rest ih =>
    have ho := frameLayout_order cfg last idx f
    have := ih (frameLayout cfg last idx f).next (idx + 1)
    rw [endOff_cons]
    omega

theorem SortedFrom.mono {a b : Nat} {ws : List (Nat × Bytes)} (h : a ≤ b) (hs : SortedFrom b ws) : SortedFrom a ws := by
  cases ws with
  | nil => trivial
  | cons w ws => exact ⟨Nat.le_trans h hs.1, hs.2⟩

theorem frameWrites_sorted (cfg : Cfg) (last idx : Nat) (frames : List Frame) :
    SortedFrom last (frameWrites cfg last idx frames) := by
  induction frames generalizing last idx with
  | nil => trivial
  | cons f rest ih =>
    have ho := frameLayout_order cfg last idx f
    refine ⟨ho.1, ?_, ?_, (ih _ _).mono ?_⟩
    · rw [encodeIfd_length]; exact ho.2.1
    · exact ho.2.2.1
    · simpa using ho.2.2.2

/-! ## `FramesIn` -/

def FramesIn (F : Bytes) (cfg : Cfg) (fin : Nat) : Nat → Nat → List Frame → Prop
  | _, _, [] => True
  | last, idx, f :: rest =>
    let desc := descOf cfg idx f
    let L := frameLayout cfg last idx f
    Holds F L.ifdOff (ifdBody (ifdTags cfg f L desc)) ∧
    Holds F (L.ifdOff + K.offsetofNext) (leBytes 8 (if rest.isEmpty then fin else L.next)) ∧
    Holds F L.dataOff f.data ∧
    Holds F L.strOff (desc ++ [0]) ∧
    FramesIn F cfg fin L.next (idx + 1) rest

theorem framesIn_of_holds (F : Bytes) (cfg : Cfg) (last idx : Nat) (frames : List Frame)
    (h : ∀ w ∈ frameWrites cfg last idx frames, Holds F w.1 w.2) :
    FramesIn F cfg (endOff cfg last idx frames) last idx frames := by
  induction frames generalizing last idx with
  | nil => trivial
  | cons f rest ih =>
    simp only [frameWrites, List.mem_cons, forall_eq_or_imp] at h
    obtain ⟨hifd, hdata, hstr, hrest⟩ := h
    rw [encodeIfd_eq, holds_append, ifdBody_length] at hifd
    refine ⟨hifd.1, ?_, hdata, hstr, ih _ _ hrest⟩
    -- for the last frame `endOff` is `next`
    cases rest <;> exact hifd.2

theorem lastNextOff_cons (cfg : Cfg) (last idx : Nat) (f : Frame) (rest : List Frame) (d : Nat) :
    lastNextOff cfg last idx (f :: rest) d =
      lastNextOff cfg (frameLayout cfg last idx f).next (idx + 1) rest ((frameLayout cfg last idx f).ifdOff + K.offsetofNext) :=
  rfl

theorem lastNextOff_irrel (cfg : Cfg) (last idx : Nat) (frames : List Frame) (d d' : Nat) (hne : frames ≠ []) :
    lastNextOff cfg last idx frames d = lastNextOff cfg last idx frames d' := by
  cases frames with
  | nil => exact absurd rfl hne
  | cons f r => rfl

theorem lastNextOff_ge (cfg : Cfg) (last idx : Nat) (f : Frame) (rest : List Frame) (d : Nat) :
    last + K.offsetofNext ≤ lastNextOff cfg last idx (f :: rest) d := by
  induction rest generalizing last idx f d with
  | nil => exact Nat.add_le_add_right (frameLayout_order cfg last idx f).1 _
  | cons g r ih =>
    have ho := frameLayout_order cfg last idx f
    have := ih (frameLayout cfg last idx f).next (idx + 1) g ((frameLayout cfg last idx f).ifdOff + K.offsetofNext)
    rw [lastNextOff_cons]
    omega

/-- writing the last link: every other structure is left alone -/
theorem framesIn_terminate (F : Bytes) (cfg : Cfg) (fin fin' : Nat) (last idx : Nat) (f : Frame) (rest : List Frame) (d : Nat)
    (h : FramesIn F cfg fin last idx (f :: rest)) :
    FramesIn (pwrite F (lastNextOff cfg last idx (f :: rest) d) (leBytes 8 fin')) cfg fin' last idx (f :: rest) := by
  have ho := frameLayout_order cfg last idx f
  have hk : K.offsetofNext + 8 = K.sizeofIfd := rfl
  have hbl := ifdBody_length cfg f (frameLayout cfg last idx f) (descOf cfg idx f)
  have hsl : (descOf cfg idx f ++ [0]).length = (descOf cfg idx f).length + 1 := List.length_append
  obtain ⟨hbody, hnext, hdata, hstr, hrest⟩ := h
  -- a structure that does not meet the 8 bytes of the link written at `x` survives
  have keep : ∀ {x o : Nat} {c : Bytes}, Holds F o c → o + c.length ≤ x ∨ x + 8 ≤ o →
      Holds (pwrite F x (leBytes 8 fin')) o c :=
    fun hc hd => holds_pwrite_of_disjoint hc _ _ (by rwa [leBytes_length])
  cases rest with
  | nil =>
    show FramesIn (pwrite F ((frameLayout cfg last idx f).ifdOff + K.offsetofNext) _) cfg fin' last idx [f]
    exact ⟨keep hbody (Or.inl (by omega)), holds_pwrite_self _ _ _, keep hdata (Or.inr (by omega)),
      keep hstr (Or.inr (by omega)), trivial⟩
  | cons g r =>
    rw [lastNextOff_cons]
    have hge := lastNextOff_ge cfg (frameLayout cfg last idx f).next (idx + 1) g r
      ((frameLayout cfg last idx f).ifdOff + K.offsetofNext)
    exact ⟨keep hbody (Or.inl (by omega)), keep hnext (Or.inl (by rw [leBytes_length]; omega)), keep hdata (Or.inl (by omega)),
      keep hstr (Or.inl (by omega)), framesIn_terminate F cfg fin fin' _ _ g r _ hrest⟩

theorem header_length : header.length = K.sizeofHeader := rfl

theorem tiffFile_holds (old : Bytes) (cfg : Cfg) (frames : List Frame) (hne : frames ≠ []) :
    Holds (tiffFile old cfg frames) 0 header ∧
      FramesIn (tiffFile old cfg frames) cfg 0 K.sizeofHeader 0 frames := by
  obtain ⟨f, rest, rfl⟩ := List.exists_cons_of_ne_nil hne
  have hs := frameWrites_sorted cfg K.sizeofHeader 0 (f :: rest)
  have hge := lastNextOff_ge cfg K.sizeofHeader 0 f rest 0
  have hfile : tiffFile old cfg (f :: rest) =
      pwrite (applyWrites (pwrite old 0 header) (frameWrites cfg K.sizeofHeader 0 (f :: rest)))
        (lastNextOff cfg K.sizeofHeader 0 (f :: rest) 0) (leBytes 8 0) := by
    simp [tiffFile, tiffWrites, applyWrites, List.foldl_append]
  rw [hfile]
  constructor
  · have h1 := applyWrites_preserves hs (holds_pwrite_self old 0 header) (Nat.le_of_eq header_length)
    exact holds_pwrite_of_disjoint h1 _ _ (Or.inl (by rw [header_length]; omega))
  · exact framesIn_terminate _ cfg _ 0 K.sizeofHeader 0 f rest 0
      (framesIn_of_holds _ cfg K.sizeofHeader 0 (f :: rest) (applyWrites_holds hs _))

end AcqVerif.Tiff
