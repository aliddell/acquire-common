import AcqVerif.Tiff.Layout
import AcqVerif.Tiff.Desc
/-!
# The scanner of `Desc.lean` recovers ids, timestamps and metadata from the writer's description
-/
namespace AcqVerif.Tiff
open AcqVerif.TiffRead

theorem byte_of_digit (c : Char) (h : c.isDigit = true) :
    (UInt8.ofNat c.toNat).toNat = c.toNat ∧ isDigitByte (UInt8.ofNat c.toNat) = true := by
  simp only [Char.isDigit, Bool.and_eq_true, decide_eq_true_eq] at h
  have h1 : 48 ≤ c.toNat := UInt32.le_iff_toNat_le.mp h.1
  have h2 : c.toNat ≤ 57 := UInt32.le_iff_toNat_le.mp h.2
  have e : (UInt8.ofNat c.toNat).toNat = c.toNat := by
    simp [UInt8.toNat_ofNat']; omega
  refine ⟨e, ?_⟩
  simp [isDigitByte, e, h1, h2]

theorem dec_all_digits (n : Nat) : ∀ c ∈ dec n, isDigitByte c = true := by
  intro c hc
  simp only [dec, List.mem_map] at hc
  obtain ⟨ch, hch, rfl⟩ := hc
  exact (byte_of_digit ch (Nat.isDigit_of_mem_toDigits (by decide) (by decide) hch)).2

theorem dec_ne_nil (n : Nat) : dec n ≠ [] := by
  simp [dec, Nat.toDigits_ne_nil]

theorem foldl_digits (l : List Char) (h : ∀ c ∈ l, c.isDigit = true) (init : Nat) :
    (l.map fun c => UInt8.ofNat c.toNat).foldl (fun v c => 10 * v + (c.toNat - 48)) init = Nat.ofDigitChars 10 l init := by
  induction l generalizing init with
  | nil => simp [Nat.ofDigitChars]
  | cons c r ih =>
    have hc := (byte_of_digit c (h c (List.mem_cons_self))).1
    simp only [List.map_cons, List.foldl_cons, Nat.ofDigitChars_cons, hc]
    exact ih (fun c' hc' => h c' (List.mem_cons_of_mem _ hc')) _

theorem digitsValue_dec (n : Nat) : digitsValue (dec n) = n := by
  unfold digitsValue dec
  rw [foldl_digits _ (fun c hc => Nat.isDigit_of_mem_toDigits (by decide) (by decide) hc)]
  exact Nat.ofDigitChars_ten_toDigits

theorem takeWhile_append_stop (p : UInt8 → Bool) (a b : List UInt8) (ha : ∀ c ∈ a, p c = true)
    (hb : b.head?.all (fun x => !p x) = true) : (a ++ b).takeWhile p = a ∧ (a ++ b).dropWhile p = b := by
  induction a with
  | nil => cases b <;> simp_all
  | cons c r ih =>
    have hc := ha c (List.mem_cons_self)
    have := ih (fun c' hc' => ha c' (List.mem_cons_of_mem _ hc'))
    simp [hc, this]

theorem number_dec (n : Nat) (rest : List UInt8) (h : rest.head?.all (fun x => !isDigitByte x) = true) :
    number (dec n ++ rest) = some (n, rest) := by
  obtain ⟨h1, h2⟩ := takeWhile_append_stop isDigitByte (dec n) rest (dec_all_digits n) h
  have hne : (dec n).isEmpty = false := by simpa using dec_ne_nil n
  simp [number, h1, h2, hne, digitsValue_dec]

theorem expect_append (k s : List UInt8) : expect k (k ++ s) = some s := by
  have : k.isPrefixOf (k ++ s) = true := by
    induction k with
    | nil => simp
    | cons c r ih => simp [ih]
  simp [expect, this]

theorem parse_numbers (a b c d : Nat) (tail : List UInt8) (ht : tail.head?.all (fun x => !isDigitByte x) = true) :
    parseDescription (kFrameId ++ (dec a ++ (kHwFrameId ++ (dec b ++ (kRuntime ++ (dec c ++ (kHardware ++
        (dec d ++ tail)))))))) =
      if tail = kEnd then some ⟨a, b, c, d, none⟩
      else (expect kMetadata tail).bind fun m =>
        if m.getLast? = some 125 then some ⟨a, b, c, d, some m.dropLast⟩ else none := by
  unfold parseDescription
  simp only [expect_append, Option.bind_eq_bind, Option.bind_some]
  rw [number_dec a _ rfl]
  simp only [expect_append, Option.bind_some]
  rw [number_dec b _ rfl]
  simp only [expect_append, Option.bind_some]
  rw [number_dec c _ rfl]
  simp only [expect_append, Option.bind_some]
  rw [number_dec d _ ht]
  rfl

theorem parse_descPlain (f : Frame) :
    parseDescription (descPlain f) = some ⟨f.frameId, f.hwFrameId, f.tsAcq, f.tsHardware, none⟩ := by
  simp only [descPlain, List.append_assoc]
  exact (parse_numbers _ _ _ _ kEnd rfl).trans (if_pos rfl)

theorem parse_descMeta (f : Frame) (m : Bytes) :
    parseDescription (descMeta f m) = some ⟨f.frameId, f.hwFrameId, f.tsAcq, f.tsHardware, some m⟩ := by
  have hne : kMetadata ++ (m ++ [125]) ≠ kEnd := by
    intro h
    have := congrArg List.length h
    simp [kMetadata, kEnd] at this
  simp only [descMeta, List.append_assoc]
  refine (parse_numbers _ _ _ _ (kMetadata ++ (m ++ [125])) rfl).trans ?_
  simp [hne, expect_append]

theorem descOf_eq (cfg : Cfg) (idx : Nat) (f : Frame) :
    descOf cfg idx f = if idx = 0 ∧ cfg.metadata ≠ [] then descMeta f cfg.metadata else descPlain f := by
  simp only [descOf, gt_iff_lt, List.length_pos_iff]

theorem parse_descOf (cfg : Cfg) (idx : Nat) (f : Frame) :
    parseDescription (descOf cfg idx f) =
      some ⟨f.frameId, f.hwFrameId, f.tsAcq, f.tsHardware, if idx = 0 ∧ cfg.metadata ≠ [] then some cfg.metadata else none⟩ := by
  rw [descOf_eq]
  split
  · exact parse_descMeta f _
  · exact parse_descPlain f

end AcqVerif.Tiff
