import AcqVerif.Tiff.MachineLemmas
/-!
# The two devices behind the HAL wrappers, and the files they leave

`Device.acquire d p packets` = `storage_set`, `storage_start`, one `storage_append` per
packet, `storage_stop` on a device in ANY prior state `d`.  For the `tiff` device it
is the writer's `Tiff.acquire`; for `tiff-json` it is the folder, `metadata.json`, and the
inner writer's `Tiff.acquire` on `<folder>/data.tif`.
-/
namespace AcqVerif.Tiff

def runAppends (d : Device) (packets : List (List Frame)) : Device × List Eff :=
  packets.foldl (fun acc pk => ((storageAppend acc.1 pk).1, acc.2 ++ (storageAppend acc.1 pk).2.2)) (d, [])

def Device.acquire (d : Device) (p : Props) (packets : List (List Frame)) : Device × List Eff :=
  let d1 := (storageSet d p).1
  let r2 := storageStart d1
  let r3 := runAppends r2.1 packets
  let r4 := storageStop r3.1
  (r4.1, r2.2.2 ++ r3.2 ++ r4.2.2)

theorem runAppends_cons (d : Device) (pk : List Frame) (packets : List (List Frame)) :
    runAppends d (pk :: packets) =
      ((runAppends (storageAppend d pk).1 packets).1,
        (storageAppend d pk).2.2 ++ (runAppends (storageAppend d pk).1 packets).2) := by
  unfold runAppends
  rw [List.foldl_cons, foldl_effects fun d pk => ((storageAppend d pk).1, (storageAppend d pk).2.2)]; rfl

/-- any writer state agrees with *some* parameters, so the loop never touches `state` -/
theorem appendLoop_state (t : Tiff) (frames : List Frame) : (t.appendLoop frames).1.state = t.state :=
  (appendLoop_spec t ⟨t.externalMetadata, t.scaleMilliX, t.scaleMilliY⟩ t.file t.lastOffset t.frameCount frames
    ⟨rfl, rfl, rfl, rfl, rfl, rfl⟩).2.2.2

theorem append_state (t : Tiff) (pk : List Frame) : (t.append pk).1.state = t.state := by
  rw [append_eq_loop]; exact appendLoop_state t pk

theorem setState_same (t : Tiff) (st : DevState) (h : t.state = st) : ({ t with state := st } : Tiff) = t := by
  subst h; rfl

theorem storageAppend_tiff (t : Tiff) (pk : List Frame) (h : t.state = .running) :
    storageAppend (.tiff t) pk = (.tiff (t.append pk).1, true, (t.append pk).2) := by
  by_cases he : pk = []
  · subst he; simp [storageAppend, Device.state, h, Tiff.append]
  · simp [storageAppend, Device.state, h, he, Device.vappend, tiffAppend, Device.setState,
      setState_same _ _ ((append_state t pk).trans h)]

theorem appendPackets_state (t : Tiff) (packets : List (List Frame)) : (t.appendPackets packets).1.state = t.state := by
  rw [appendPackets_eq]; exact appendLoop_state _ _

theorem runAppends_tiff (t : Tiff) (packets : List (List Frame)) (h : t.state = .running) :
    runAppends (.tiff t) packets = (.tiff (t.appendPackets packets).1, (t.appendPackets packets).2) := by
  induction packets generalizing t with
  | nil => rfl
  | cons pk ps ih =>
    rw [runAppends_cons, storageAppend_tiff t pk h, ih _ ((append_state t pk).trans h), appendPackets_cons]

theorem storageSet_tiff (t : Tiff) (p : Props) (hm : metaOk p.metadata) :
    (storageSet (.tiff t) p).1 = .tiff { (t.set p).1 with state := .armed } := by
  have := (set_spec t p hm).1
  simp [storageSet, Device.vset, tiffSet, this, Device.setState]

theorem storageStop_tiff (t : Tiff) (h : t.state = .running) : storageStop (.tiff t) = (.tiff t.stop.1, true, t.stop.2) := by
  have h4 : t.stop.1.state = .armed := by simp [Tiff.stop, h]
  simp [storageStop, Device.state, h, Device.vstop, tiffStop, Device.setState, setState_same _ _ h4]

/-- the `tiff` device behind the HAL = the writer's acquisition -/
theorem acquire_tiff (t : Tiff) (p : Props) (packets : List (List Frame)) (hm : metaOk p.metadata) :
    Device.acquire (.tiff t) p packets = (.tiff (t.acquire p packets).1, (t.acquire p packets).2) := by
  obtain ⟨_, hrun, _⟩ := begin_spec t p hm
  have hstart : storageStart (.tiff { (t.set p).1 with state := .armed }) = (.tiff (t.begin p).1, true, (t.begin p).2) := by
    simp [storageStart, Device.state, Device.vstart, tiffStart, Device.setState, Tiff.begin]
  unfold Device.acquire
  simp only [storageSet_tiff t p hm, hstart, runAppends_tiff _ packets hrun]
  rw [storageStop_tiff _ ((appendPackets_state _ packets).trans hrun)]
  simp [Tiff.acquire]

/-! ## tiff-json -/

/-- what the composite hands to the inner writer -/
def innerProps (p : Props) : Props :=
  { uri := pathOfUri p.uri ++ sDataTif, metadata := some (p.metadata.getD []),
    scaleMilliX := p.scaleMilliX, scaleMilliY := p.scaleMilliY }

/-- configurations `side_by_side_tiff_set` accepts -/
def sxsMetaOk (m : Option Bytes) : Prop := sxsValidateJson m = true

theorem innerProps_metaOk (p : Props) (h : sxsMetaOk p.metadata) : metaOk (innerProps p).metadata := by
  unfold sxsMetaOk sxsValidateJson at h
  cases hm : p.metadata with
  | none => simp [innerProps, metaOk, hm]
  | some s => rw [hm] at h; simp [innerProps, metaOk, hm, h]

theorem cfgOf_innerProps (p : Props) : cfgOf (innerProps p) = cfgOf p := by
  simp [cfgOf, innerProps, metaOf]

/-- the folder and `metadata.json` -/
def sxsPrologue (p : Props) : List Eff :=
  [Eff.mkdir (pathOfUri p.uri), Eff.remove (pathOfUri p.uri ++ sMetadataJson), Eff.create (pathOfUri p.uri ++ sMetadataJson),
   Eff.write (pathOfUri p.uri ++ sMetadataJson) 0 (p.metadata.getD []), Eff.close (pathOfUri p.uri ++ sMetadataJson)]

/-- the composite after `set` (its `state` as given) -/
def sxsConfigured (p : Props) (st : DevState) (t : Tiff) : Sxs :=
  { state := st, tiff := t, uri := pathOfUri p.uri, metadata := p.metadata.getD [],
    scaleMilliX := p.scaleMilliX, scaleMilliY := p.scaleMilliY }

theorem sxsSet_spec (s : Sxs) (p : Props) (h : sxsMetaOk p.metadata) :
    sxsSet s p = (sxsConfigured p s.state s.tiff, .armed) := by
  unfold sxsMetaOk at h
  unfold sxsConfigured sxsSet
  simp only [h, Bool.not_true, Bool.false_eq_true, if_false]
  by_cases ho : uriOffset p.uri = 0 <;> simp [ho, pathOfUri]

theorem storageAppend_sxs (s : Sxs) (pk : List Frame) (h : s.state = .running) :
    storageAppend (.sxs s) pk = (.sxs { s with tiff := (s.tiff.append pk).1 }, true, (s.tiff.append pk).2) := by
  by_cases he : pk = []
  · subst he
    have h1 : storageAppend (.sxs s) [] = (.sxs s, true, []) := by simp [storageAppend, Device.state, h]
    rw [h1]; rfl
  · simp [storageAppend, Device.state, h, he, Device.vappend, sxsAppend, tiffAppend, Device.setState]

theorem runAppends_sxs (s : Sxs) (packets : List (List Frame)) (h : s.state = .running) :
    runAppends (.sxs s) packets =
      (.sxs { s with tiff := (s.tiff.appendPackets packets).1 }, (s.tiff.appendPackets packets).2) := by
  induction packets generalizing s with
  | nil => rfl
  | cons pk ps ih =>
    rw [runAppends_cons, storageAppend_sxs s pk h, ih { s with tiff := (s.tiff.append pk).1 } h, appendPackets_cons]

/-- the `tiff-json` device behind the HAL = folder + `metadata.json` + the inner writer's acquisition -/
theorem acquire_sxs (s : Sxs) (p : Props) (packets : List (List Frame)) (hm : sxsMetaOk p.metadata) :
    (Device.acquire (.sxs s) p packets).2 = sxsPrologue p ++ (s.tiff.acquire (innerProps p) packets).2 ∧
      (Device.acquire (.sxs s) p packets).1.state = .armed := by
  have hin := innerProps_metaOk p hm
  have hset := (set_spec s.tiff (innerProps p) hin).1
  unfold innerProps at hset
  unfold Device.acquire
  simp only [storageSet, Device.vset, sxsSet_spec s p hm, Device.setState]
  have hstart : storageStart (.sxs (sxsConfigured p .armed s.tiff)) =
      (.sxs (sxsConfigured p .running (s.tiff.begin (innerProps p)).1), true,
        sxsPrologue p ++ (s.tiff.begin (innerProps p)).2) := by
    simp [storageStart, Device.state, Device.vstart, sxsStart, tiffSet, hset, tiffStart, Device.setState, Tiff.begin,
      innerProps, sxsPrologue, sxsConfigured]
  have hcfg : ({ sxsConfigured p s.state s.tiff with state := DevState.armed } : Sxs) = sxsConfigured p .armed s.tiff := rfl
  rw [hcfg, hstart]
  simp only [runAppends_sxs (sxsConfigured p .running (s.tiff.begin (innerProps p)).1) packets rfl]
  simp [storageStop, Device.state, Device.vstop, sxsStop, tiffStop, Device.setState, Tiff.acquire, List.append_assoc,
    sxsConfigured]

/-! ## files -/

-- found once: the search for this instance wanders through the order classes of `UInt8` at every use
local instance : LawfulBEq Bytes := inferInstanceAs (LawfulBEq (List UInt8))

theorem Files.get_cons (e : Bytes × Bytes) (r : Files) (p : Bytes) :
    Files.get (e :: r) p = if e.1 = p then some e.2 else Files.get r p := by
  simp only [Files.get, List.find?_cons]
  split <;> simp_all

theorem Files.get_put_same (w : Files) (p c : Bytes) : (w.put p c).get p = some c := by
  induction w with
  | nil => simp [Files.put, Files.get_cons]
  | cons e r ih => by_cases h : e.1 = p <;> simp [Files.put, Files.get_cons, h, ih]

theorem Files.get_put_other (w : Files) (p q c : Bytes) (h : q ≠ p) : (w.put p c).get q = w.get q := by
  induction w with
  | nil => simp [Files.put, Files.get_cons, Ne.symm h]
  | cons e r ih =>
    by_cases hx : e.1 = p
    · simp [Files.put, Files.get_cons, hx, Ne.symm h]
    · simp [Files.put, Files.get_cons, hx, ih]

theorem Files.remove_cons (e : Bytes × Bytes) (r : Files) (p : Bytes) :
    Files.apply (e :: r) (.remove p) = if e.1 = p then Files.apply r (.remove p) else e :: Files.apply r (.remove p) := by
  by_cases h : e.1 = p <;> simp [Files.apply, h]

theorem Files.get_remove_same (w : Files) (p : Bytes) : (Files.apply w (.remove p)).get p = none := by
  induction w with
  | nil => rfl
  | cons e r ih => by_cases h : e.1 = p <;> simp [Files.remove_cons, Files.get_cons, h, ih]

theorem Files.get_remove_other (w : Files) (p q : Bytes) (h : q ≠ p) : (Files.apply w (.remove p)).get q = w.get q := by
  induction w with
  | nil => rfl
  | cons e r ih =>
    by_cases hx : e.1 = p
    · simp [Files.remove_cons, Files.get_cons, hx, Ne.symm h, ih]
    · simp [Files.remove_cons, Files.get_cons, hx, ih]

/-- what a path holds after one effect -/
theorem Files.get_apply (w : Files) (e : Eff) (q : Bytes) :
    (w.apply e).get q = match e with
      | .remove p => if q = p then none else w.get q
      | .create p => if q = p then some ((w.get p).getD []) else w.get q
      | .write p off buf => if q = p then some (pwrite ((w.get p).getD []) off buf) else w.get q
      | _ => w.get q := by
  cases e with
  | mkdir p | close p => rfl
  | remove p =>
    dsimp only
    by_cases h : q = p
    · rw [h, if_pos rfl, Files.get_remove_same]
    · rw [if_neg h, Files.get_remove_other w p q h]
  | create p =>
    by_cases h : q = p
    · subst h; cases hg : w.get q <;> simp [Files.apply, hg, Files.get_put_same]
    · cases hg : w.get p <;> simp [Files.apply, hg, h, Files.get_put_other]
  | write p off buf =>
    dsimp only
    by_cases h : q = p
    · rw [h, if_pos rfl]; exact Files.get_put_same _ _ _
    · rw [if_neg h]; exact Files.get_put_other _ _ _ _ h

theorem Files.applyAll_append (w : Files) (a b : List Eff) : w.applyAll (a ++ b) = (w.applyAll a).applyAll b := by
  simp [Files.applyAll, List.foldl_append]

theorem Files.applyAll_writes (w : Files) (p : Bytes) (ws : List (Nat × Bytes)) (c : Bytes) (h : w.get p = some c) :
    (w.applyAll (toEffs p ws)).get p = some (applyWrites c ws) := by
  induction ws generalizing w c with
  | nil => exact h
  | cons x r ih => exact ih (w.apply (.write p x.1 x.2)) _ (by simp [Files.get_apply, h])

theorem Files.acquire_file (w : Files) (p : Bytes) (ws : List (Nat × Bytes)) :
    (w.applyAll ([Eff.create p] ++ toEffs p ws ++ [Eff.close p])).get p = some (applyWrites ((w.get p).getD []) ws) := by
  rw [Files.applyAll_append, Files.applyAll_append]
  exact Files.applyAll_writes (w.applyAll [Eff.create p]) p ws _ (by simp [Files.applyAll, Files.get_apply])

theorem Files.applyAll_writes_other (w : Files) (p : Bytes) (ws : List (Nat × Bytes)) (q : Bytes) (h : q ≠ p) :
    (w.applyAll (toEffs p ws)).get q = w.get q := by
  induction ws generalizing w with
  | nil => rfl
  | cons x r ih => exact (ih (w.apply (.write p x.1 x.2))).trans (by simp [Files.get_apply, h])

theorem Files.acquire_other (w : Files) (p : Bytes) (ws : List (Nat × Bytes)) (q : Bytes) (h : q ≠ p) :
    (w.applyAll ([Eff.create p] ++ toEffs p ws ++ [Eff.close p])).get q = w.get q := by
  rw [Files.applyAll_append, Files.applyAll_append]
  exact (Files.applyAll_writes_other _ p ws q h).trans (by simp [Files.applyAll, Files.get_apply, h])

end AcqVerif.Tiff
