import AcqVerif.Tiff.Layout
import AcqVerif.Tiff.ReadLemmas
/-!
# The state machine issues exactly the writes of the closed form

For any prior state of the device and any grouping of the frames into packets.
-/
namespace AcqVerif.Tiff

def toEffs (path : Bytes) (ws : List (Nat × Bytes)) : List Eff := ws.map fun w => Eff.write path w.1 w.2

theorem toEffs_append (path : Bytes) (a b : List (Nat × Bytes)) : toEffs path (a ++ b) = toEffs path a ++ toEffs path b := by
  simp [toEffs]

/-- the writer's fields agree with the closed form's parameters -/
structure Agrees (t : Tiff) (cfg : Cfg) (path : Bytes) (last idx : Nat) : Prop where
  fc : t.frameCount = idx
  md : t.externalMetadata = cfg.metadata
  sx : t.scaleMilliX = cfg.scaleMilliX
  sy : t.scaleMilliY = cfg.scaleMilliY
  lo : t.lastOffset = last
  file : t.file = path

theorem imageDescription_long (s : StringSection) (off : Nat) (text : Bytes) (h : 7 < text.length) :
    imageDescription (s.reset off) text =
      (descTag off text, { offset := off + (text.length + 1), size := text.length + 1, data := text ++ [0] }) := by
  simp [imageDescription, asFormattedString, h, StringSection.reset, StringSection.reserve, descTag]

theorem appendOne_spec (t : Tiff) (cfg : Cfg) (path : Bytes) (last idx : Nat) (f : Frame)
    (h : Agrees t cfg path last idx) :
    (t.appendOne f).2 = toEffs path (frameWrites cfg last idx [f]) ∧
      Agrees (t.appendOne f).1 cfg path (frameLayout cfg last idx f).next (idx + 1) ∧
      (t.appendOne f).1.lastIfdNextOffset = (frameLayout cfg last idx f).ifdOff + K.offsetofNext ∧
      (t.appendOne f).1.state = t.state := by
  obtain ⟨hfc, hmd, hsx, hsy, hlo, hfile⟩ := h
  have hd := descOf_length cfg idx f
  -- the writer's choice between the two `printf`s is `descOf`
  simp only [Tiff.appendOne, ← apply_ite (imageDescription _), hfc, hmd, ← descOf.eq_1, imageDescription_long _ _ _ hd]
  refine ⟨?_, ⟨?_, ?_, ?_, ?_, ?_, ?_⟩, ?_, ?_⟩ <;>
    simp [Tiff.write_, toEffs, frameWrites, frameLayout, layout, ifdTags, hsx, hsy, hlo, hfile]

theorem appendLoop_spec (t : Tiff) (cfg : Cfg) (path : Bytes) (last idx : Nat) (frames : List Frame)
    (h : Agrees t cfg path last idx) :
    (t.appendLoop frames).2 = toEffs path (frameWrites cfg last idx frames) ∧
      Agrees (t.appendLoop frames).1 cfg path (endOff cfg last idx frames) (idx + frames.length) ∧
      (t.appendLoop frames).1.lastIfdNextOffset = lastNextOff cfg last idx frames t.lastIfdNextOffset ∧
      (t.appendLoop frames).1.state = t.state := by
  induction frames generalizing t last idx with
  | nil => exact ⟨rfl, by simpa [Tiff.appendLoop, endOff] using h, rfl, rfl⟩
  | cons f rest ih =>
    obtain ⟨h1, h2, h3, h4⟩ := appendOne_spec t cfg path last idx f h
    obtain ⟨i1, i2, i3, i4⟩ := ih (t.appendOne f).1 (frameLayout cfg last idx f).next (idx + 1) h2
    simp only [Tiff.appendLoop]
    refine ⟨?_, ?_, ?_, ?_⟩
    · rw [h1, i1, ← toEffs_append]; rfl
    · rw [Nat.add_right_comm] at i2; exact i2
    · rw [i3, h3]; rfl
    · rw [i4, h4]

/-- `Tiff::append` on a packet is the loop (an empty packet does nothing either way) -/
theorem append_eq_loop (t : Tiff) (packet : List Frame) : t.append packet = t.appendLoop packet := by
  unfold Tiff.append
  cases packet <;> simp [Tiff.appendLoop]

theorem appendLoop_append (t : Tiff) (a b : List Frame) :
    t.appendLoop (a ++ b) = ((t.appendLoop a).1.appendLoop b |>.1, (t.appendLoop a).2 ++ ((t.appendLoop a).1.appendLoop b).2) := by
  induction a generalizing t with
  | nil => simp [Tiff.appendLoop]
  | cons f r ih => simp [Tiff.appendLoop, ih, List.append_assoc]

/-- appending packet after packet (what the sink does with the writer) -/
def Tiff.appendPackets (t : Tiff) (packets : List (List Frame)) : Tiff × List Eff :=
  packets.foldl (fun acc pk => ((acc.1.append pk).1, acc.2 ++ (acc.1.append pk).2)) (t, [])

theorem foldl_effects {σ α ε : Type} (step : σ → α → σ × List ε) (xs : List α) (s : σ) (e : List ε) :
    xs.foldl (fun acc x => ((step acc.1 x).1, acc.2 ++ (step acc.1 x).2)) (s, e) =
      ((xs.foldl (fun acc x => ((step acc.1 x).1, acc.2 ++ (step acc.1 x).2)) (s, [])).1,
        e ++ (xs.foldl (fun acc x => ((step acc.1 x).1, acc.2 ++ (step acc.1 x).2)) (s, [])).2) := by
  induction xs generalizing s e with
  | nil => simp
  | cons x xs ih => rw [List.foldl_cons, ih, List.foldl_cons, ih _ ([] ++ _)]; simp

theorem appendPackets_cons (t : Tiff) (pk : List Frame) (packets : List (List Frame)) :
    t.appendPackets (pk :: packets) =
      (((t.append pk).1.appendPackets packets).1, (t.append pk).2 ++ ((t.append pk).1.appendPackets packets).2) := by
  unfold Tiff.appendPackets
  rw [List.foldl_cons, foldl_effects Tiff.append]; rfl

/-- **packet grouping**: only the concatenation of the packets matters -/
theorem appendPackets_eq (t : Tiff) (packets : List (List Frame)) :
    t.appendPackets packets = t.appendLoop packets.flatten := by
  induction packets generalizing t with
  | nil => rfl
  | cons pk ps ih => rw [appendPackets_cons, ih, append_eq_loop, List.flatten_cons, appendLoop_append]

/-! ## one acquisition of the writer, from any prior state -/

/-- the metadata the writer keeps for a configuration (repaired `Tiff::set`) -/
def metaOf (m : Option Bytes) : Bytes := m.getD []

/-- configurations `Tiff::set` accepts -/
def metaOk (m : Option Bytes) : Prop :=
  match m with
  | none => True
  | some s => s = [] ∨ validateJson s = true

def cfgOf (p : Props) : Cfg := ⟨metaOf p.metadata, p.scaleMilliX, p.scaleMilliY⟩

def pathOfUri (uri : Bytes) : Bytes := uri.drop (uriOffset uri)

theorem pathOfUri_length_le (uri : Bytes) : (pathOfUri uri).length ≤ uri.length := by
  simp [pathOfUri]

theorem set_spec (t : Tiff) (p : Props) (hm : metaOk p.metadata) :
    (t.set p).2 = true ∧ (t.set p).1.filename = pathOfUri p.uri ∧ (t.set p).1.externalMetadata = metaOf p.metadata ∧
      (t.set p).1.scaleMilliX = p.scaleMilliX ∧ (t.set p).1.scaleMilliY = p.scaleMilliY := by
  unfold Tiff.set
  cases hmd : p.metadata with
  | none => simp [metaOf, pathOfUri]
  | some s =>
    rw [hmd] at hm
    by_cases hs : s = []
    · subst hs; simp [metaOf, pathOfUri]
    · have hl : s.length + 1 > 1 := Nat.succ_lt_succ (List.length_pos_iff.mpr hs)
      simp [hl, hm.resolve_left hs, metaOf, pathOfUri]

/-- `set` then `start`, with the writer's `state` maintained by the caller as the HAL (or the repaired
composite) does -/
def Tiff.begin (t : Tiff) (p : Props) : Tiff × List Eff :=
  let t1 := { (t.set p).1 with state := .armed }
  let (t2, e1) := t1.start
  ({ t2 with state := .running }, e1)

theorem begin_spec (t : Tiff) (p : Props) (hm : metaOk p.metadata) :
    Agrees (t.begin p).1 (cfgOf p) (pathOfUri p.uri) K.sizeofHeader 0 ∧ (t.begin p).1.state = .running ∧
      (t.begin p).2 = [Eff.create (pathOfUri p.uri), Eff.write (pathOfUri p.uri) 0 header] := by
  obtain ⟨_, s2, s3, s4, s5⟩ := set_spec t p hm
  refine ⟨⟨?_, ?_, ?_, ?_, ?_, ?_⟩, ?_, ?_⟩ <;>
    simp [Tiff.begin, Tiff.start, Tiff.write_, cfgOf, s2, s3, s4, s5]

/-- set, start, the packets, stop — directly on the writer -/
def Tiff.acquire (t : Tiff) (p : Props) (packets : List (List Frame)) : Tiff × List Eff :=
  let (t2, e1) := t.begin p
  let (t3, e2) := t2.appendPackets packets
  let (t4, e3) := t3.stop
  (t4, e1 ++ e2 ++ e3)

/-- **no state leaks into the file**: from ANY prior state `t` of the writer, one acquisition issues the
create, the writes of the closed form (which depend on the configuration and the frames only), and the close -/
theorem acquire_spec (t : Tiff) (p : Props) (packets : List (List Frame)) (hm : metaOk p.metadata)
    (hne : packets.flatten ≠ []) :
    (t.acquire p packets).2 =
      [Eff.create (pathOfUri p.uri)] ++ toEffs (pathOfUri p.uri) (tiffWrites (cfgOf p) packets.flatten) ++
        [Eff.close (pathOfUri p.uri)] ∧
    (t.acquire p packets).1.state = .armed := by
  obtain ⟨hag, hrun, he1⟩ := begin_spec t p hm
  obtain ⟨a1, a2, a3, a4⟩ :=
    appendLoop_spec (t.begin p).1 (cfgOf p) (pathOfUri p.uri) K.sizeofHeader 0 packets.flatten hag
  have hst : ((t.begin p).1.appendLoop packets.flatten).1.state = .running := by rw [a4, hrun]
  have hfile := a2.file
  unfold Tiff.acquire
  simp only [appendPackets_eq, Tiff.stop, hst, if_true, Tiff.write_]
  refine ⟨?_, trivial⟩
  rw [he1, a1, a3, hfile, lastNextOff_irrel _ _ _ _ _ 0 hne]
  simp [tiffWrites, toEffs]

end AcqVerif.Tiff
