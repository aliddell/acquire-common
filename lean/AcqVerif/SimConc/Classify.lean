import AcqVerif.SimConc.Model
/-! Classifiers of parking points used by the invariants (`Inv.lean`), each with `simp` lemmas for the
constructors (`_any`: whatever the argument) so that `simp` evaluates them on concrete parking points and
leaves them folded otherwise; then how they depend on each other, and what `wakeC` and `State.nextPc` do
to them. -/
namespace AcqVerif.SimConc

def CPc.holds : CPc → Bool
  | .unborn => false
  | .bstart => false
  | .createB => false
  | .idle => false
  | .startCreate => false
  | .trigLock .user => false
  | .trigLock (.stop _) => false
  | .trigLock .setoff => false
  | .trigNotify .user => true
  | .trigNotify (.stop _) => true
  | .trigNotify .setoff => true
  | .stopNotifyF _ => false
  | .stopJoin _ => false
  | .setLock true => false
  | .setLock false => false
  | .getLock => false
  | .getWait => true
  | .getAsleep true => false
  | .getAsleep false => false
  | .joinB => false
  | .exit => false
  | .fin => false

@[simp, grind =] theorem CPc.holds_unborn : (CPc.unborn).holds = false := rfl
@[simp, grind =] theorem CPc.holds_bstart : (CPc.bstart).holds = false := rfl
@[simp, grind =] theorem CPc.holds_createB : (CPc.createB).holds = false := rfl
@[simp, grind =] theorem CPc.holds_idle : (CPc.idle).holds = false := rfl
@[simp, grind =] theorem CPc.holds_startCreate : (CPc.startCreate).holds = false := rfl
@[simp, grind =] theorem CPc.holds_trigLock_user : (CPc.trigLock .user).holds = false := rfl
@[simp, grind =] theorem CPc.holds_trigLock_stop_g (g : Bool) : (CPc.trigLock (.stop g)).holds = false := rfl
@[simp, grind =] theorem CPc.holds_trigLock_setoff : (CPc.trigLock .setoff).holds = false := rfl
@[simp, grind =] theorem CPc.holds_stopNotifyF_g (g : Bool) : (CPc.stopNotifyF g).holds = false := rfl
@[simp, grind =] theorem CPc.holds_stopJoin_g (g : Bool) : (CPc.stopJoin g).holds = false := rfl
@[simp, grind =] theorem CPc.holds_getLock : (CPc.getLock).holds = false := rfl
@[simp, grind =] theorem CPc.holds_getWait : (CPc.getWait).holds = true := rfl
@[simp, grind =] theorem CPc.holds_getAsleep_true : (CPc.getAsleep true).holds = false := rfl
@[simp, grind =] theorem CPc.holds_joinB : (CPc.joinB).holds = false := rfl
@[simp, grind =] theorem CPc.holds_exit : (CPc.exit).holds = false := rfl
@[simp, grind =] theorem CPc.holds_fin : (CPc.fin).holds = false := rfl

def CPc.stopPre : CPc → Bool
  | .unborn => false
  | .bstart => false
  | .createB => false
  | .idle => false
  | .startCreate => false
  | .trigLock .user => false
  | .trigLock (.stop _) => true
  | .trigLock .setoff => false
  | .trigNotify .user => false
  | .trigNotify (.stop _) => true
  | .trigNotify .setoff => false
  | .stopNotifyF _ => true
  | .stopJoin _ => false
  | .setLock true => false
  | .setLock false => false
  | .getLock => false
  | .getWait => false
  | .getAsleep true => false
  | .getAsleep false => false
  | .joinB => false
  | .exit => false
  | .fin => false

@[simp, grind =] theorem CPc.stopPre_unborn : (CPc.unborn).stopPre = false := rfl
@[simp, grind =] theorem CPc.stopPre_bstart : (CPc.bstart).stopPre = false := rfl
@[simp, grind =] theorem CPc.stopPre_createB : (CPc.createB).stopPre = false := rfl
@[simp, grind =] theorem CPc.stopPre_idle : (CPc.idle).stopPre = false := rfl
@[simp, grind =] theorem CPc.stopPre_startCreate : (CPc.startCreate).stopPre = false := rfl
@[simp, grind =] theorem CPc.stopPre_trigLock_user : (CPc.trigLock .user).stopPre = false := rfl
@[simp, grind =] theorem CPc.stopPre_trigLock_stop_g (g : Bool) : (CPc.trigLock (.stop g)).stopPre = true := rfl
@[simp, grind =] theorem CPc.stopPre_trigLock_setoff : (CPc.trigLock .setoff).stopPre = false := rfl
@[simp, grind =] theorem CPc.stopPre_trigNotify_user : (CPc.trigNotify .user).stopPre = false := rfl
@[simp, grind =] theorem CPc.stopPre_trigNotify_stop_g (g : Bool) : (CPc.trigNotify (.stop g)).stopPre = true := rfl
@[simp, grind =] theorem CPc.stopPre_trigNotify_setoff : (CPc.trigNotify .setoff).stopPre = false := rfl
@[simp, grind =] theorem CPc.stopPre_stopNotifyF_g (g : Bool) : (CPc.stopNotifyF g).stopPre = true := rfl
@[simp, grind =] theorem CPc.stopPre_stopJoin_g (g : Bool) : (CPc.stopJoin g).stopPre = false := rfl
@[simp, grind =] theorem CPc.stopPre_setLock_true : (CPc.setLock true).stopPre = false := rfl
@[simp, grind =] theorem CPc.stopPre_setLock_false : (CPc.setLock false).stopPre = false := rfl
@[simp, grind =] theorem CPc.stopPre_getLock : (CPc.getLock).stopPre = false := rfl
@[simp, grind =] theorem CPc.stopPre_getWait : (CPc.getWait).stopPre = false := rfl
@[simp, grind =] theorem CPc.stopPre_getAsleep_true : (CPc.getAsleep true).stopPre = false := rfl
@[simp, grind =] theorem CPc.stopPre_getAsleep_false : (CPc.getAsleep false).stopPre = false := rfl
@[simp, grind =] theorem CPc.stopPre_joinB : (CPc.joinB).stopPre = false := rfl
@[simp, grind =] theorem CPc.stopPre_exit : (CPc.exit).stopPre = false := rfl
@[simp, grind =] theorem CPc.stopPre_fin : (CPc.fin).stopPre = false := rfl

def CPc.stopTPre : CPc → Bool
  | .unborn => false
  | .bstart => false
  | .createB => false
  | .idle => false
  | .startCreate => false
  | .trigLock .user => false
  | .trigLock (.stop _) => true
  | .trigLock .setoff => false
  | .trigNotify .user => false
  | .trigNotify (.stop _) => true
  | .trigNotify .setoff => false
  | .stopNotifyF _ => false
  | .stopJoin _ => false
  | .setLock true => false
  | .setLock false => false
  | .getLock => false
  | .getWait => false
  | .getAsleep true => false
  | .getAsleep false => false
  | .joinB => false
  | .exit => false
  | .fin => false

@[simp, grind =] theorem CPc.stopTPre_unborn : (CPc.unborn).stopTPre = false := rfl
@[simp, grind =] theorem CPc.stopTPre_bstart : (CPc.bstart).stopTPre = false := rfl
@[simp, grind =] theorem CPc.stopTPre_createB : (CPc.createB).stopTPre = false := rfl
@[simp, grind =] theorem CPc.stopTPre_idle : (CPc.idle).stopTPre = false := rfl
@[simp, grind =] theorem CPc.stopTPre_startCreate : (CPc.startCreate).stopTPre = false := rfl
@[simp, grind =] theorem CPc.stopTPre_trigLock_user : (CPc.trigLock .user).stopTPre = false := rfl
@[simp, grind =] theorem CPc.stopTPre_trigLock_stop_g (g : Bool) : (CPc.trigLock (.stop g)).stopTPre = true := rfl
@[simp, grind =] theorem CPc.stopTPre_trigLock_setoff : (CPc.trigLock .setoff).stopTPre = false := rfl
@[simp, grind =] theorem CPc.stopTPre_trigNotify_user : (CPc.trigNotify .user).stopTPre = false := rfl
@[simp, grind =] theorem CPc.stopTPre_trigNotify_stop_g (g : Bool) : (CPc.trigNotify (.stop g)).stopTPre = true := rfl
@[simp, grind =] theorem CPc.stopTPre_trigNotify_setoff : (CPc.trigNotify .setoff).stopTPre = false := rfl
@[simp, grind =] theorem CPc.stopTPre_stopNotifyF_g (g : Bool) : (CPc.stopNotifyF g).stopTPre = false := rfl
@[simp, grind =] theorem CPc.stopTPre_stopJoin_g (g : Bool) : (CPc.stopJoin g).stopTPre = false := rfl
@[simp, grind =] theorem CPc.stopTPre_setLock_true : (CPc.setLock true).stopTPre = false := rfl
@[simp, grind =] theorem CPc.stopTPre_setLock_false : (CPc.setLock false).stopTPre = false := rfl
@[simp, grind =] theorem CPc.stopTPre_getLock : (CPc.getLock).stopTPre = false := rfl
@[simp, grind =] theorem CPc.stopTPre_getWait : (CPc.getWait).stopTPre = false := rfl
@[simp, grind =] theorem CPc.stopTPre_getAsleep_true : (CPc.getAsleep true).stopTPre = false := rfl
@[simp, grind =] theorem CPc.stopTPre_getAsleep_false : (CPc.getAsleep false).stopTPre = false := rfl
@[simp, grind =] theorem CPc.stopTPre_joinB : (CPc.joinB).stopTPre = false := rfl
@[simp, grind =] theorem CPc.stopTPre_exit : (CPc.exit).stopTPre = false := rfl
@[simp, grind =] theorem CPc.stopTPre_fin : (CPc.fin).stopTPre = false := rfl

def CPc.stopLockPre : CPc → Bool
  | .unborn => false
  | .bstart => false
  | .createB => false
  | .idle => false
  | .startCreate => false
  | .trigLock .user => false
  | .trigLock (.stop _) => true
  | .trigLock .setoff => false
  | .trigNotify .user => false
  | .trigNotify (.stop _) => false
  | .trigNotify .setoff => false
  | .stopNotifyF _ => false
  | .stopJoin _ => false
  | .setLock true => false
  | .setLock false => false
  | .getLock => false
  | .getWait => false
  | .getAsleep true => false
  | .getAsleep false => false
  | .joinB => false
  | .exit => false
  | .fin => false

@[simp, grind =] theorem CPc.stopLockPre_unborn : (CPc.unborn).stopLockPre = false := rfl
@[simp, grind =] theorem CPc.stopLockPre_bstart : (CPc.bstart).stopLockPre = false := rfl
@[simp, grind =] theorem CPc.stopLockPre_createB : (CPc.createB).stopLockPre = false := rfl
@[simp, grind =] theorem CPc.stopLockPre_idle : (CPc.idle).stopLockPre = false := rfl
@[simp, grind =] theorem CPc.stopLockPre_startCreate : (CPc.startCreate).stopLockPre = false := rfl
@[simp, grind =] theorem CPc.stopLockPre_trigLock_user : (CPc.trigLock .user).stopLockPre = false := rfl
@[simp, grind =] theorem CPc.stopLockPre_trigLock_stop_g (g : Bool) : (CPc.trigLock (.stop g)).stopLockPre = true := rfl
@[simp, grind =] theorem CPc.stopLockPre_trigLock_setoff : (CPc.trigLock .setoff).stopLockPre = false := rfl
@[simp, grind =] theorem CPc.stopLockPre_trigNotify_user : (CPc.trigNotify .user).stopLockPre = false := rfl
@[simp, grind =] theorem CPc.stopLockPre_trigNotify_stop_g (g : Bool) : (CPc.trigNotify (.stop g)).stopLockPre = false := rfl
@[simp, grind =] theorem CPc.stopLockPre_trigNotify_setoff : (CPc.trigNotify .setoff).stopLockPre = false := rfl
@[simp, grind =] theorem CPc.stopLockPre_stopNotifyF_g (g : Bool) : (CPc.stopNotifyF g).stopLockPre = false := rfl
@[simp, grind =] theorem CPc.stopLockPre_stopJoin_g (g : Bool) : (CPc.stopJoin g).stopLockPre = false := rfl
@[simp, grind =] theorem CPc.stopLockPre_setLock_true : (CPc.setLock true).stopLockPre = false := rfl
@[simp, grind =] theorem CPc.stopLockPre_setLock_false : (CPc.setLock false).stopLockPre = false := rfl
@[simp, grind =] theorem CPc.stopLockPre_getLock : (CPc.getLock).stopLockPre = false := rfl
@[simp, grind =] theorem CPc.stopLockPre_getWait : (CPc.getWait).stopLockPre = false := rfl
@[simp, grind =] theorem CPc.stopLockPre_joinB : (CPc.joinB).stopLockPre = false := rfl
@[simp, grind =] theorem CPc.stopLockPre_exit : (CPc.exit).stopLockPre = false := rfl
@[simp, grind =] theorem CPc.stopLockPre_fin : (CPc.fin).stopLockPre = false := rfl

def CPc.inStop : CPc → Bool
  | .unborn => false
  | .bstart => false
  | .createB => false
  | .idle => false
  | .startCreate => false
  | .trigLock .user => false
  | .trigLock (.stop _) => true
  | .trigLock .setoff => false
  | .trigNotify .user => false
  | .trigNotify (.stop _) => true
  | .trigNotify .setoff => false
  | .stopNotifyF _ => true
  | .stopJoin _ => true
  | .setLock true => false
  | .setLock false => false
  | .getLock => false
  | .getWait => false
  | .getAsleep true => false
  | .getAsleep false => false
  | .joinB => false
  | .exit => false
  | .fin => false

@[simp, grind =] theorem CPc.inStop_unborn : (CPc.unborn).inStop = false := rfl
@[simp, grind =] theorem CPc.inStop_bstart : (CPc.bstart).inStop = false := rfl
@[simp, grind =] theorem CPc.inStop_createB : (CPc.createB).inStop = false := rfl
@[simp, grind =] theorem CPc.inStop_idle : (CPc.idle).inStop = false := rfl
@[simp, grind =] theorem CPc.inStop_startCreate : (CPc.startCreate).inStop = false := rfl
@[simp, grind =] theorem CPc.inStop_trigLock_user : (CPc.trigLock .user).inStop = false := rfl
@[simp, grind =] theorem CPc.inStop_trigLock_stop_g (g : Bool) : (CPc.trigLock (.stop g)).inStop = true := rfl
@[simp, grind =] theorem CPc.inStop_trigLock_setoff : (CPc.trigLock .setoff).inStop = false := rfl
@[simp, grind =] theorem CPc.inStop_trigNotify_user : (CPc.trigNotify .user).inStop = false := rfl
@[simp, grind =] theorem CPc.inStop_trigNotify_stop_g (g : Bool) : (CPc.trigNotify (.stop g)).inStop = true := rfl
@[simp, grind =] theorem CPc.inStop_trigNotify_setoff : (CPc.trigNotify .setoff).inStop = false := rfl
@[simp, grind =] theorem CPc.inStop_stopNotifyF_g (g : Bool) : (CPc.stopNotifyF g).inStop = true := rfl
@[simp, grind =] theorem CPc.inStop_stopJoin_g (g : Bool) : (CPc.stopJoin g).inStop = true := rfl
@[simp, grind =] theorem CPc.inStop_getLock : (CPc.getLock).inStop = false := rfl
@[simp, grind =] theorem CPc.inStop_getWait : (CPc.getWait).inStop = false := rfl
@[simp, grind =] theorem CPc.inStop_getAsleep_true : (CPc.getAsleep true).inStop = false := rfl
@[simp, grind =] theorem CPc.inStop_joinB : (CPc.joinB).inStop = false := rfl
@[simp, grind =] theorem CPc.inStop_exit : (CPc.exit).inStop = false := rfl
@[simp, grind =] theorem CPc.inStop_fin : (CPc.fin).inStop = false := rfl

def CPc.getSleeping : CPc → Bool
  | .unborn => false
  | .bstart => false
  | .createB => false
  | .idle => false
  | .startCreate => false
  | .trigLock .user => false
  | .trigLock (.stop _) => false
  | .trigLock .setoff => false
  | .trigNotify .user => false
  | .trigNotify (.stop _) => false
  | .trigNotify .setoff => false
  | .stopNotifyF _ => false
  | .stopJoin _ => false
  | .setLock true => false
  | .setLock false => false
  | .getLock => false
  | .getWait => true
  | .getAsleep true => false
  | .getAsleep false => true
  | .joinB => false
  | .exit => false
  | .fin => false

@[simp, grind =] theorem CPc.getSleeping_unborn : (CPc.unborn).getSleeping = false := rfl
@[simp, grind =] theorem CPc.getSleeping_bstart : (CPc.bstart).getSleeping = false := rfl
@[simp, grind =] theorem CPc.getSleeping_createB : (CPc.createB).getSleeping = false := rfl
@[simp, grind =] theorem CPc.getSleeping_idle : (CPc.idle).getSleeping = false := rfl
@[simp, grind =] theorem CPc.getSleeping_startCreate : (CPc.startCreate).getSleeping = false := rfl
@[simp, grind =] theorem CPc.getSleeping_trigLock_user : (CPc.trigLock .user).getSleeping = false := rfl
@[simp, grind =] theorem CPc.getSleeping_trigLock_stop_g (g : Bool) : (CPc.trigLock (.stop g)).getSleeping = false := rfl
@[simp, grind =] theorem CPc.getSleeping_trigLock_setoff : (CPc.trigLock .setoff).getSleeping = false := rfl
@[simp, grind =] theorem CPc.getSleeping_trigNotify_user : (CPc.trigNotify .user).getSleeping = false := rfl
@[simp, grind =] theorem CPc.getSleeping_trigNotify_stop_g (g : Bool) : (CPc.trigNotify (.stop g)).getSleeping = false := rfl
@[simp, grind =] theorem CPc.getSleeping_trigNotify_setoff : (CPc.trigNotify .setoff).getSleeping = false := rfl
@[simp, grind =] theorem CPc.getSleeping_stopNotifyF_g (g : Bool) : (CPc.stopNotifyF g).getSleeping = false := rfl
@[simp, grind =] theorem CPc.getSleeping_stopJoin_g (g : Bool) : (CPc.stopJoin g).getSleeping = false := rfl
@[simp, grind =] theorem CPc.getSleeping_setLock_true : (CPc.setLock true).getSleeping = false := rfl
@[simp, grind =] theorem CPc.getSleeping_setLock_false : (CPc.setLock false).getSleeping = false := rfl
@[simp, grind =] theorem CPc.getSleeping_getLock : (CPc.getLock).getSleeping = false := rfl
@[simp, grind =] theorem CPc.getSleeping_getWait : (CPc.getWait).getSleeping = true := rfl
@[simp, grind =] theorem CPc.getSleeping_getAsleep_true : (CPc.getAsleep true).getSleeping = false := rfl
@[simp, grind =] theorem CPc.getSleeping_getAsleep_false : (CPc.getAsleep false).getSleeping = true := rfl
@[simp, grind =] theorem CPc.getSleeping_joinB : (CPc.joinB).getSleeping = false := rfl
@[simp, grind =] theorem CPc.getSleeping_exit : (CPc.exit).getSleeping = false := rfl
@[simp, grind =] theorem CPc.getSleeping_fin : (CPc.fin).getSleeping = false := rfl

def CPc.setoffPending : CPc → Bool
  | .unborn => false
  | .bstart => false
  | .createB => false
  | .idle => false
  | .startCreate => false
  | .trigLock .user => false
  | .trigLock (.stop _) => false
  | .trigLock .setoff => true
  | .trigNotify .user => false
  | .trigNotify (.stop _) => false
  | .trigNotify .setoff => true
  | .stopNotifyF _ => false
  | .stopJoin _ => false
  | .setLock true => false
  | .setLock false => true
  | .getLock => false
  | .getWait => false
  | .getAsleep true => false
  | .getAsleep false => false
  | .joinB => false
  | .exit => false
  | .fin => false

@[simp, grind =] theorem CPc.setoffPending_unborn : (CPc.unborn).setoffPending = false := rfl
@[simp, grind =] theorem CPc.setoffPending_bstart : (CPc.bstart).setoffPending = false := rfl
@[simp, grind =] theorem CPc.setoffPending_createB : (CPc.createB).setoffPending = false := rfl
@[simp, grind =] theorem CPc.setoffPending_idle : (CPc.idle).setoffPending = false := rfl
@[simp, grind =] theorem CPc.setoffPending_startCreate : (CPc.startCreate).setoffPending = false := rfl
@[simp, grind =] theorem CPc.setoffPending_trigLock_user : (CPc.trigLock .user).setoffPending = false := rfl
@[simp, grind =] theorem CPc.setoffPending_trigLock_stop_g (g : Bool) : (CPc.trigLock (.stop g)).setoffPending = false := rfl
@[simp, grind =] theorem CPc.setoffPending_trigLock_setoff : (CPc.trigLock .setoff).setoffPending = true := rfl
@[simp, grind =] theorem CPc.setoffPending_trigNotify_user : (CPc.trigNotify .user).setoffPending = false := rfl
@[simp, grind =] theorem CPc.setoffPending_trigNotify_stop_g (g : Bool) : (CPc.trigNotify (.stop g)).setoffPending = false := rfl
@[simp, grind =] theorem CPc.setoffPending_trigNotify_setoff : (CPc.trigNotify .setoff).setoffPending = true := rfl
@[simp, grind =] theorem CPc.setoffPending_stopNotifyF_g (g : Bool) : (CPc.stopNotifyF g).setoffPending = false := rfl
@[simp, grind =] theorem CPc.setoffPending_stopJoin_g (g : Bool) : (CPc.stopJoin g).setoffPending = false := rfl
@[simp, grind =] theorem CPc.setoffPending_setLock_true : (CPc.setLock true).setoffPending = false := rfl
@[simp, grind =] theorem CPc.setoffPending_setLock_false : (CPc.setLock false).setoffPending = true := rfl
@[simp, grind =] theorem CPc.setoffPending_getLock : (CPc.getLock).setoffPending = false := rfl
@[simp, grind =] theorem CPc.setoffPending_getWait : (CPc.getWait).setoffPending = false := rfl
@[simp, grind =] theorem CPc.setoffPending_joinB : (CPc.joinB).setoffPending = false := rfl
@[simp, grind =] theorem CPc.setoffPending_exit : (CPc.exit).setoffPending = false := rfl
@[simp, grind =] theorem CPc.setoffPending_fin : (CPc.fin).setoffPending = false := rfl

@[simp, grind =] theorem CPc.quiet_unborn : (CPc.unborn).quiet = true := rfl
@[simp, grind =] theorem CPc.quiet_bstart : (CPc.bstart).quiet = true := rfl
@[simp, grind =] theorem CPc.quiet_createB : (CPc.createB).quiet = true := rfl
@[simp, grind =] theorem CPc.quiet_idle : (CPc.idle).quiet = true := rfl
@[simp, grind =] theorem CPc.quiet_startCreate : (CPc.startCreate).quiet = false := rfl
@[simp, grind =] theorem CPc.quiet_trigLock_user : (CPc.trigLock .user).quiet = false := rfl
@[simp, grind =] theorem CPc.quiet_trigLock_stop_g (g : Bool) : (CPc.trigLock (.stop g)).quiet = false := rfl
@[simp, grind =] theorem CPc.quiet_trigLock_setoff : (CPc.trigLock .setoff).quiet = false := rfl
@[simp, grind =] theorem CPc.quiet_trigNotify_user : (CPc.trigNotify .user).quiet = false := rfl
@[simp, grind =] theorem CPc.quiet_trigNotify_stop_g (g : Bool) : (CPc.trigNotify (.stop g)).quiet = false := rfl
@[simp, grind =] theorem CPc.quiet_trigNotify_setoff : (CPc.trigNotify .setoff).quiet = false := rfl
@[simp, grind =] theorem CPc.quiet_stopNotifyF_g (g : Bool) : (CPc.stopNotifyF g).quiet = false := rfl
@[simp, grind =] theorem CPc.quiet_stopJoin_g (g : Bool) : (CPc.stopJoin g).quiet = false := rfl
@[simp, grind =] theorem CPc.quiet_setLock_true : (CPc.setLock true).quiet = false := rfl
@[simp, grind =] theorem CPc.quiet_setLock_false : (CPc.setLock false).quiet = false := rfl
@[simp, grind =] theorem CPc.quiet_getLock : (CPc.getLock).quiet = false := rfl
@[simp, grind =] theorem CPc.quiet_getWait : (CPc.getWait).quiet = false := rfl
@[simp, grind =] theorem CPc.quiet_joinB : (CPc.joinB).quiet = true := rfl
@[simp, grind =] theorem CPc.quiet_exit : (CPc.exit).quiet = true := rfl
@[simp, grind =] theorem CPc.quiet_fin : (CPc.fin).quiet = true := rfl

def CPc.inSet : CPc → Bool
  | .unborn => false
  | .bstart => false
  | .createB => false
  | .idle => false
  | .startCreate => false
  | .trigLock .user => false
  | .trigLock (.stop _) => false
  | .trigLock .setoff => true
  | .trigNotify .user => false
  | .trigNotify (.stop _) => false
  | .trigNotify .setoff => true
  | .stopNotifyF _ => false
  | .stopJoin _ => false
  | .setLock true => true
  | .setLock false => true
  | .getLock => false
  | .getWait => false
  | .getAsleep true => false
  | .getAsleep false => false
  | .joinB => false
  | .exit => false
  | .fin => false

@[simp, grind =] theorem CPc.inSet_unborn : (CPc.unborn).inSet = false := rfl
@[simp, grind =] theorem CPc.inSet_bstart : (CPc.bstart).inSet = false := rfl
@[simp, grind =] theorem CPc.inSet_createB : (CPc.createB).inSet = false := rfl
@[simp, grind =] theorem CPc.inSet_idle : (CPc.idle).inSet = false := rfl
@[simp, grind =] theorem CPc.inSet_startCreate : (CPc.startCreate).inSet = false := rfl
@[simp, grind =] theorem CPc.inSet_trigLock_user : (CPc.trigLock .user).inSet = false := rfl
@[simp, grind =] theorem CPc.inSet_trigLock_stop_g (g : Bool) : (CPc.trigLock (.stop g)).inSet = false := rfl
@[simp, grind =] theorem CPc.inSet_trigLock_setoff : (CPc.trigLock .setoff).inSet = true := rfl
@[simp, grind =] theorem CPc.inSet_trigNotify_user : (CPc.trigNotify .user).inSet = false := rfl
@[simp, grind =] theorem CPc.inSet_trigNotify_stop_g (g : Bool) : (CPc.trigNotify (.stop g)).inSet = false := rfl
@[simp, grind =] theorem CPc.inSet_trigNotify_setoff : (CPc.trigNotify .setoff).inSet = true := rfl
@[simp, grind =] theorem CPc.inSet_stopNotifyF_g (g : Bool) : (CPc.stopNotifyF g).inSet = false := rfl
@[simp, grind =] theorem CPc.inSet_stopJoin_g (g : Bool) : (CPc.stopJoin g).inSet = false := rfl
@[simp, grind =] theorem CPc.inSet_getLock : (CPc.getLock).inSet = false := rfl
@[simp, grind =] theorem CPc.inSet_getWait : (CPc.getWait).inSet = false := rfl
@[simp, grind =] theorem CPc.inSet_joinB : (CPc.joinB).inSet = false := rfl
@[simp, grind =] theorem CPc.inSet_exit : (CPc.exit).inSet = false := rfl
@[simp, grind =] theorem CPc.inSet_fin : (CPc.fin).inSet = false := rfl

def CPc.atTrigNotify : CPc → Bool
  | .unborn => false
  | .bstart => false
  | .createB => false
  | .idle => false
  | .startCreate => false
  | .trigLock .user => false
  | .trigLock (.stop _) => false
  | .trigLock .setoff => false
  | .trigNotify .user => true
  | .trigNotify (.stop _) => true
  | .trigNotify .setoff => true
  | .stopNotifyF _ => false
  | .stopJoin _ => false
  | .setLock true => false
  | .setLock false => false
  | .getLock => false
  | .getWait => false
  | .getAsleep true => false
  | .getAsleep false => false
  | .joinB => false
  | .exit => false
  | .fin => false

@[simp, grind =] theorem CPc.atTrigNotify_unborn : (CPc.unborn).atTrigNotify = false := rfl
@[simp, grind =] theorem CPc.atTrigNotify_bstart : (CPc.bstart).atTrigNotify = false := rfl
@[simp, grind =] theorem CPc.atTrigNotify_createB : (CPc.createB).atTrigNotify = false := rfl
@[simp, grind =] theorem CPc.atTrigNotify_idle : (CPc.idle).atTrigNotify = false := rfl
@[simp, grind =] theorem CPc.atTrigNotify_startCreate : (CPc.startCreate).atTrigNotify = false := rfl
@[simp, grind =] theorem CPc.atTrigNotify_trigLock_user : (CPc.trigLock .user).atTrigNotify = false := rfl
@[simp, grind =] theorem CPc.atTrigNotify_trigLock_stop_g (g : Bool) : (CPc.trigLock (.stop g)).atTrigNotify = false := rfl
@[simp, grind =] theorem CPc.atTrigNotify_trigLock_setoff : (CPc.trigLock .setoff).atTrigNotify = false := rfl
@[simp, grind =] theorem CPc.atTrigNotify_trigNotify_user : (CPc.trigNotify .user).atTrigNotify = true := rfl
@[simp, grind =] theorem CPc.atTrigNotify_trigNotify_stop_g (g : Bool) : (CPc.trigNotify (.stop g)).atTrigNotify = true := rfl
@[simp, grind =] theorem CPc.atTrigNotify_trigNotify_setoff : (CPc.trigNotify .setoff).atTrigNotify = true := rfl
@[simp, grind =] theorem CPc.atTrigNotify_stopNotifyF_g (g : Bool) : (CPc.stopNotifyF g).atTrigNotify = false := rfl
@[simp, grind =] theorem CPc.atTrigNotify_stopJoin_g (g : Bool) : (CPc.stopJoin g).atTrigNotify = false := rfl
@[simp, grind =] theorem CPc.atTrigNotify_setLock_true : (CPc.setLock true).atTrigNotify = false := rfl
@[simp, grind =] theorem CPc.atTrigNotify_setLock_false : (CPc.setLock false).atTrigNotify = false := rfl
@[simp, grind =] theorem CPc.atTrigNotify_getLock : (CPc.getLock).atTrigNotify = false := rfl
@[simp, grind =] theorem CPc.atTrigNotify_getWait : (CPc.getWait).atTrigNotify = false := rfl
@[simp, grind =] theorem CPc.atTrigNotify_getAsleep_true : (CPc.getAsleep true).atTrigNotify = false := rfl
@[simp, grind =] theorem CPc.atTrigNotify_getAsleep_false : (CPc.getAsleep false).atTrigNotify = false := rfl
@[simp, grind =] theorem CPc.atTrigNotify_joinB : (CPc.joinB).atTrigNotify = false := rfl
@[simp, grind =] theorem CPc.atTrigNotify_exit : (CPc.exit).atTrigNotify = false := rfl
@[simp, grind =] theorem CPc.atTrigNotify_fin : (CPc.fin).atTrigNotify = false := rfl

def CPc.inGet : CPc → Bool
  | .unborn => false
  | .bstart => false
  | .createB => false
  | .idle => false
  | .startCreate => false
  | .trigLock .user => false
  | .trigLock (.stop _) => false
  | .trigLock .setoff => false
  | .trigNotify .user => false
  | .trigNotify (.stop _) => false
  | .trigNotify .setoff => false
  | .stopNotifyF _ => false
  | .stopJoin _ => false
  | .setLock true => false
  | .setLock false => false
  | .getLock => true
  | .getWait => true
  | .getAsleep true => true
  | .getAsleep false => true
  | .joinB => false
  | .exit => false
  | .fin => false

@[simp, grind =] theorem CPc.inGet_unborn : (CPc.unborn).inGet = false := rfl
@[simp, grind =] theorem CPc.inGet_bstart : (CPc.bstart).inGet = false := rfl
@[simp, grind =] theorem CPc.inGet_createB : (CPc.createB).inGet = false := rfl
@[simp, grind =] theorem CPc.inGet_idle : (CPc.idle).inGet = false := rfl
@[simp, grind =] theorem CPc.inGet_startCreate : (CPc.startCreate).inGet = false := rfl
@[simp, grind =] theorem CPc.inGet_trigLock_user : (CPc.trigLock .user).inGet = false := rfl
@[simp, grind =] theorem CPc.inGet_trigLock_stop_g (g : Bool) : (CPc.trigLock (.stop g)).inGet = false := rfl
@[simp, grind =] theorem CPc.inGet_trigLock_setoff : (CPc.trigLock .setoff).inGet = false := rfl
@[simp, grind =] theorem CPc.inGet_trigNotify_user : (CPc.trigNotify .user).inGet = false := rfl
@[simp, grind =] theorem CPc.inGet_trigNotify_stop_g (g : Bool) : (CPc.trigNotify (.stop g)).inGet = false := rfl
@[simp, grind =] theorem CPc.inGet_trigNotify_setoff : (CPc.trigNotify .setoff).inGet = false := rfl
@[simp, grind =] theorem CPc.inGet_stopNotifyF_g (g : Bool) : (CPc.stopNotifyF g).inGet = false := rfl
@[simp, grind =] theorem CPc.inGet_stopJoin_g (g : Bool) : (CPc.stopJoin g).inGet = false := rfl
@[simp, grind =] theorem CPc.inGet_setLock_true : (CPc.setLock true).inGet = false := rfl
@[simp, grind =] theorem CPc.inGet_setLock_false : (CPc.setLock false).inGet = false := rfl
@[simp, grind =] theorem CPc.inGet_getLock : (CPc.getLock).inGet = true := rfl
@[simp, grind =] theorem CPc.inGet_getWait : (CPc.getWait).inGet = true := rfl
@[simp, grind =] theorem CPc.inGet_getAsleep_true : (CPc.getAsleep true).inGet = true := rfl
@[simp, grind =] theorem CPc.inGet_getAsleep_false : (CPc.getAsleep false).inGet = true := rfl
@[simp, grind =] theorem CPc.inGet_joinB : (CPc.joinB).inGet = false := rfl
@[simp, grind =] theorem CPc.inGet_exit : (CPc.exit).inGet = false := rfl
@[simp, grind =] theorem CPc.inGet_fin : (CPc.fin).inGet = false := rfl

def SPc.holds : SPc → Bool
  | .none => false
  | .start => false
  | .lock1 => false
  | .waitT => true
  | .asleepT true => false
  | .asleepT false => false
  | .sleep => false
  | .lock2 => false
  | .notifyF => true
  | .fin => false

@[simp, grind =] theorem SPc.holds_none : (SPc.none).holds = false := rfl
@[simp, grind =] theorem SPc.holds_start : (SPc.start).holds = false := rfl
@[simp, grind =] theorem SPc.holds_lock1 : (SPc.lock1).holds = false := rfl
@[simp, grind =] theorem SPc.holds_waitT : (SPc.waitT).holds = true := rfl
@[simp, grind =] theorem SPc.holds_asleepT_true : (SPc.asleepT true).holds = false := rfl
@[simp, grind =] theorem SPc.holds_asleepT_false : (SPc.asleepT false).holds = false := rfl
@[simp, grind =] theorem SPc.holds_sleep : (SPc.sleep).holds = false := rfl
@[simp, grind =] theorem SPc.holds_lock2 : (SPc.lock2).holds = false := rfl
@[simp, grind =] theorem SPc.holds_notifyF : (SPc.notifyF).holds = true := rfl
@[simp, grind =] theorem SPc.holds_fin : (SPc.fin).holds = false := rfl

def SPc.alive : SPc → Bool
  | .none => false
  | .start => true
  | .lock1 => true
  | .waitT => true
  | .asleepT true => true
  | .asleepT false => true
  | .sleep => true
  | .lock2 => true
  | .notifyF => true
  | .fin => false

@[simp, grind =] theorem SPc.alive_none : (SPc.none).alive = false := rfl
@[simp, grind =] theorem SPc.alive_start : (SPc.start).alive = true := rfl
@[simp, grind =] theorem SPc.alive_lock1 : (SPc.lock1).alive = true := rfl
@[simp, grind =] theorem SPc.alive_waitT : (SPc.waitT).alive = true := rfl
@[simp, grind =] theorem SPc.alive_asleepT_false : (SPc.asleepT false).alive = true := rfl
@[simp, grind =] theorem SPc.alive_sleep : (SPc.sleep).alive = true := rfl
@[simp, grind =] theorem SPc.alive_lock2 : (SPc.lock2).alive = true := rfl
@[simp, grind =] theorem SPc.alive_notifyF : (SPc.notifyF).alive = true := rfl
@[simp, grind =] theorem SPc.alive_fin : (SPc.fin).alive = false := rfl

def SPc.inLoop : SPc → Bool
  | .none => false
  | .start => false
  | .lock1 => true
  | .waitT => true
  | .asleepT true => true
  | .asleepT false => true
  | .sleep => true
  | .lock2 => true
  | .notifyF => true
  | .fin => false

@[simp, grind =] theorem SPc.inLoop_none : (SPc.none).inLoop = false := rfl
@[simp, grind =] theorem SPc.inLoop_start : (SPc.start).inLoop = false := rfl
@[simp, grind =] theorem SPc.inLoop_lock1 : (SPc.lock1).inLoop = true := rfl
@[simp, grind =] theorem SPc.inLoop_waitT : (SPc.waitT).inLoop = true := rfl
@[simp, grind =] theorem SPc.inLoop_asleepT_false : (SPc.asleepT false).inLoop = true := rfl
@[simp, grind =] theorem SPc.inLoop_sleep : (SPc.sleep).inLoop = true := rfl
@[simp, grind =] theorem SPc.inLoop_lock2 : (SPc.lock2).inLoop = true := rfl
@[simp, grind =] theorem SPc.inLoop_notifyF : (SPc.notifyF).inLoop = true := rfl
@[simp, grind =] theorem SPc.inLoop_fin : (SPc.fin).inLoop = false := rfl

def SPc.waitingT : SPc → Bool
  | .none => false
  | .start => false
  | .lock1 => false
  | .waitT => true
  | .asleepT true => false
  | .asleepT false => true
  | .sleep => false
  | .lock2 => false
  | .notifyF => false
  | .fin => false

@[simp, grind =] theorem SPc.waitingT_none : (SPc.none).waitingT = false := rfl
@[simp, grind =] theorem SPc.waitingT_start : (SPc.start).waitingT = false := rfl
@[simp, grind =] theorem SPc.waitingT_lock1 : (SPc.lock1).waitingT = false := rfl
@[simp, grind =] theorem SPc.waitingT_waitT : (SPc.waitT).waitingT = true := rfl
@[simp, grind =] theorem SPc.waitingT_asleepT_true : (SPc.asleepT true).waitingT = false := rfl
@[simp, grind =] theorem SPc.waitingT_asleepT_false : (SPc.asleepT false).waitingT = true := rfl
@[simp, grind =] theorem SPc.waitingT_sleep : (SPc.sleep).waitingT = false := rfl
@[simp, grind =] theorem SPc.waitingT_lock2 : (SPc.lock2).waitingT = false := rfl
@[simp, grind =] theorem SPc.waitingT_notifyF : (SPc.notifyF).waitingT = false := rfl
@[simp, grind =] theorem SPc.waitingT_fin : (SPc.fin).waitingT = false := rfl

def SPc.atLock1 : SPc → Bool
  | .none => false
  | .start => false
  | .lock1 => true
  | .waitT => false
  | .asleepT true => true
  | .asleepT false => false
  | .sleep => false
  | .lock2 => false
  | .notifyF => false
  | .fin => false

@[simp, grind =] theorem SPc.atLock1_none : (SPc.none).atLock1 = false := rfl
@[simp, grind =] theorem SPc.atLock1_start : (SPc.start).atLock1 = false := rfl
@[simp, grind =] theorem SPc.atLock1_lock1 : (SPc.lock1).atLock1 = true := rfl
@[simp, grind =] theorem SPc.atLock1_waitT : (SPc.waitT).atLock1 = false := rfl
@[simp, grind =] theorem SPc.atLock1_asleepT_true : (SPc.asleepT true).atLock1 = true := rfl
@[simp, grind =] theorem SPc.atLock1_asleepT_false : (SPc.asleepT false).atLock1 = false := rfl
@[simp, grind =] theorem SPc.atLock1_sleep : (SPc.sleep).atLock1 = false := rfl
@[simp, grind =] theorem SPc.atLock1_lock2 : (SPc.lock2).atLock1 = false := rfl
@[simp, grind =] theorem SPc.atLock1_notifyF : (SPc.notifyF).atLock1 = false := rfl
@[simp, grind =] theorem SPc.atLock1_fin : (SPc.fin).atLock1 = false := rfl


@[simp, grind =] theorem CPc.holds_trigLock_any (k : TCtx) : (CPc.trigLock k).holds = false := by cases k <;> rfl
@[simp, grind =] theorem CPc.holds_trigNotify_any (k : TCtx) : (CPc.trigNotify k).holds = true := by cases k <;> rfl
@[simp, grind =] theorem CPc.holds_setLock_any (en : Bool) : (CPc.setLock en).holds = false := by cases en <;> rfl
@[simp, grind =] theorem CPc.holds_getAsleep_any (n : Bool) : (CPc.getAsleep n).holds = false := by cases n <;> rfl
@[simp, grind =] theorem CPc.stopPre_setLock_any (en : Bool) : (CPc.setLock en).stopPre = false := by cases en <;> rfl
@[simp, grind =] theorem CPc.stopPre_getAsleep_any (n : Bool) : (CPc.getAsleep n).stopPre = false := by cases n <;> rfl
@[simp, grind =] theorem CPc.stopTPre_setLock_any (en : Bool) : (CPc.setLock en).stopTPre = false := by cases en <;> rfl
@[simp, grind =] theorem CPc.stopTPre_getAsleep_any (n : Bool) : (CPc.getAsleep n).stopTPre = false := by cases n <;> rfl
@[simp, grind =] theorem CPc.stopLockPre_trigNotify_any (k : TCtx) : (CPc.trigNotify k).stopLockPre = false := by cases k <;> rfl
@[simp, grind =] theorem CPc.stopLockPre_setLock_any (en : Bool) : (CPc.setLock en).stopLockPre = false := by cases en <;> rfl
@[simp, grind =] theorem CPc.stopLockPre_getAsleep_any (n : Bool) : (CPc.getAsleep n).stopLockPre = false := by cases n <;> rfl
@[simp, grind =] theorem CPc.inStop_setLock_any (en : Bool) : (CPc.setLock en).inStop = false := by cases en <;> rfl
@[simp, grind =] theorem CPc.inStop_getAsleep_any (n : Bool) : (CPc.getAsleep n).inStop = false := by cases n <;> rfl
@[simp, grind =] theorem CPc.getSleeping_trigLock_any (k : TCtx) : (CPc.trigLock k).getSleeping = false := by cases k <;> rfl
@[simp, grind =] theorem CPc.getSleeping_trigNotify_any (k : TCtx) : (CPc.trigNotify k).getSleeping = false := by cases k <;> rfl
@[simp, grind =] theorem CPc.getSleeping_setLock_any (en : Bool) : (CPc.setLock en).getSleeping = false := by cases en <;> rfl
@[simp, grind =] theorem CPc.setoffPending_getAsleep_any (n : Bool) : (CPc.getAsleep n).setoffPending = false := by cases n <;> rfl
@[simp, grind =] theorem CPc.quiet_trigLock_any (k : TCtx) : (CPc.trigLock k).quiet = false := by cases k <;> rfl
@[simp, grind =] theorem CPc.quiet_trigNotify_any (k : TCtx) : (CPc.trigNotify k).quiet = false := by cases k <;> rfl
@[simp, grind =] theorem CPc.quiet_setLock_any (en : Bool) : (CPc.setLock en).quiet = false := by cases en <;> rfl
@[simp, grind =] theorem CPc.quiet_getAsleep_any (n : Bool) : (CPc.getAsleep n).quiet = false := by cases n <;> rfl
@[simp, grind =] theorem CPc.inSet_setLock_any (en : Bool) : (CPc.setLock en).inSet = true := by cases en <;> rfl
@[simp, grind =] theorem CPc.inSet_getAsleep_any (n : Bool) : (CPc.getAsleep n).inSet = false := by cases n <;> rfl
@[simp, grind =] theorem CPc.atTrigNotify_trigLock_any (k : TCtx) : (CPc.trigLock k).atTrigNotify = false := by cases k <;> rfl
@[simp, grind =] theorem CPc.atTrigNotify_trigNotify_any (k : TCtx) : (CPc.trigNotify k).atTrigNotify = true := by cases k <;> rfl
@[simp, grind =] theorem CPc.atTrigNotify_setLock_any (en : Bool) : (CPc.setLock en).atTrigNotify = false := by cases en <;> rfl
@[simp, grind =] theorem CPc.atTrigNotify_getAsleep_any (n : Bool) : (CPc.getAsleep n).atTrigNotify = false := by cases n <;> rfl
@[simp, grind =] theorem CPc.inGet_trigLock_any (k : TCtx) : (CPc.trigLock k).inGet = false := by cases k <;> rfl
@[simp, grind =] theorem CPc.inGet_trigNotify_any (k : TCtx) : (CPc.trigNotify k).inGet = false := by cases k <;> rfl
@[simp, grind =] theorem CPc.inGet_setLock_any (en : Bool) : (CPc.setLock en).inGet = false := by cases en <;> rfl
@[simp, grind =] theorem CPc.inGet_getAsleep_any (n : Bool) : (CPc.getAsleep n).inGet = true := by cases n <;> rfl
@[simp, grind =] theorem SPc.holds_asleepT_any (n : Bool) : (SPc.asleepT n).holds = false := by cases n <;> rfl
@[simp, grind =] theorem SPc.alive_asleepT_any (n : Bool) : (SPc.asleepT n).alive = true := by cases n <;> rfl
@[simp, grind =] theorem SPc.inLoop_asleepT_any (n : Bool) : (SPc.asleepT n).inLoop = true := by cases n <;> rfl

/-! The parking points are finitely many: a statement about all of them is checked on each. -/

def CPc.all : List CPc :=
  [.unborn, .bstart, .createB, .idle, .startCreate,
   .trigLock .user, .trigLock (.stop false), .trigLock (.stop true), .trigLock .setoff,
   .trigNotify .user, .trigNotify (.stop false), .trigNotify (.stop true), .trigNotify .setoff,
   .stopNotifyF false, .stopNotifyF true, .stopJoin false, .stopJoin true,
   .setLock false, .setLock true, .getLock, .getWait, .getAsleep false, .getAsleep true,
   .joinB, .exit, .fin]

theorem CPc.mem_all (p : CPc) : p ∈ CPc.all := by
  rcases p with _ | _ | _ | _ | _ | (_ | (_ | _) | _) | (_ | (_ | _) | _) | (_ | _) | (_ | _) | (_ | _) | _ | _ |
    (_ | _) | _ | _ | _ <;> decide

instance (P : CPc → Prop) [DecidablePred P] : Decidable (∀ p, P p) :=
  decidable_of_iff (∀ p ∈ CPc.all, P p) ⟨fun h p => h p (CPc.mem_all p), fun h p _ => h p⟩

def SPc.all : List SPc :=
  [.none, .start, .lock1, .waitT, .asleepT false, .asleepT true, .sleep, .lock2, .notifyF, .fin]

theorem SPc.mem_all (p : SPc) : p ∈ SPc.all := by
  rcases p with _ | _ | _ | _ | (_ | _) | _ | _ | _ | _ <;> decide

instance (P : SPc → Prop) [DecidablePred P] : Decidable (∀ p, P p) :=
  decidable_of_iff (∀ p ∈ SPc.all, P p) ⟨fun h p => h p (SPc.mem_all p), fun h p _ => h p⟩

@[simp, grind =] theorem CPc.holds_of_quiet {p : CPc} (h : p.quiet = true) : p.holds = false := by
  revert p; decide
@[simp, grind =] theorem CPc.stopPre_of_quiet {p : CPc} (h : p.quiet = true) : p.stopPre = false := by
  revert p; decide
@[simp, grind =] theorem CPc.stopTPre_of_quiet {p : CPc} (h : p.quiet = true) : p.stopTPre = false := by
  revert p; decide
@[simp, grind =] theorem CPc.stopLockPre_of_quiet {p : CPc} (h : p.quiet = true) : p.stopLockPre = false := by
  revert p; decide
@[simp, grind =] theorem CPc.inStop_of_quiet {p : CPc} (h : p.quiet = true) : p.inStop = false := by
  revert p; decide
@[simp, grind =] theorem CPc.getSleeping_of_quiet {p : CPc} (h : p.quiet = true) : p.getSleeping = false := by
  revert p; decide
@[simp, grind =] theorem CPc.setoffPending_of_quiet {p : CPc} (h : p.quiet = true) : p.setoffPending = false := by
  revert p; decide
@[simp, grind =] theorem CPc.inSet_of_quiet {p : CPc} (h : p.quiet = true) : p.inSet = false := by
  revert p; decide
@[simp, grind =] theorem CPc.atTrigNotify_of_quiet {p : CPc} (h : p.quiet = true) : p.atTrigNotify = false := by
  revert p; decide
@[simp, grind =] theorem CPc.inGet_of_quiet {p : CPc} (h : p.quiet = true) : p.inGet = false := by
  revert p; decide

theorem CPc.ne_of_quiet {p q : CPc} (hp : p.quiet = true) (hq : q.quiet = false) : (p = q) = False :=
  eq_false fun e => by rw [e, hq] at hp; cases hp
@[simp] theorem CPc.ne_startCreate_of_quiet {p : CPc} (h : p.quiet = true) : (p = CPc.startCreate) = False :=
  CPc.ne_of_quiet h rfl

@[grind →] theorem SPc.cases_of_waitingT {p : SPc} (h : p.waitingT = true) : p = .waitT ∨ p = .asleepT false := by
  revert p; decide
@[grind →] theorem SPc.cases_of_atLock1 {p : SPc} (h : p.atLock1 = true) : p = .lock1 ∨ p = .asleepT true := by
  revert p; decide
@[grind →] theorem SPc.cases_of_holds {p : SPc} (h : p.holds = true) : p = .waitT ∨ p = .notifyF := by
  revert p; decide
@[grind →] theorem SPc.alive_of_inLoop {p : SPc} (h : p.inLoop = true) : p.alive = true := by
  revert p; decide
@[grind →] theorem SPc.inLoop_of_waitingT {p : SPc} (h : p.waitingT = true) : p.inLoop = true := by
  revert p; decide
@[grind →] theorem SPc.inLoop_of_atLock1 {p : SPc} (h : p.atLock1 = true) : p.inLoop = true := by
  revert p; decide
@[grind →] theorem SPc.inLoop_of_holds {p : SPc} (h : p.holds = true) : p.inLoop = true := by
  revert p; decide
@[grind →] theorem CPc.stopTPre_of_stopLockPre {p : CPc} (h : p.stopLockPre = true) : p.stopTPre = true := by
  revert p; decide
@[grind →] theorem CPc.stopPre_of_stopTPre {p : CPc} (h : p.stopTPre = true) : p.stopPre = true := by
  revert p; decide
@[grind →] theorem CPc.inStop_of_stopPre {p : CPc} (h : p.stopPre = true) : p.inStop = true := by
  revert p; decide
@[grind →] theorem CPc.inStop_of_stopTPre {p : CPc} (h : p.stopTPre = true) : p.inStop = true := by
  revert p; decide
@[grind →] theorem CPc.holds_of_atTrigNotify {p : CPc} (h : p.atTrigNotify = true) : p.holds = true := by
  revert p; decide

/-- `notify_all` moves only an un-notified sleeper -/
theorem wakeC_cases (p : CPc) : wakeC p = p ∨ (p = .getAsleep false ∧ wakeC p = .getAsleep true) := by
  revert p; decide
grind_pattern wakeC_cases => wakeC p

@[simp, grind =] theorem wakeC_holds (p : CPc) : (wakeC p).holds = p.holds := by
  revert p; decide
@[simp, grind =] theorem wakeC_stopPre (p : CPc) : (wakeC p).stopPre = p.stopPre := by
  revert p; decide
@[simp, grind =] theorem wakeC_stopTPre (p : CPc) : (wakeC p).stopTPre = p.stopTPre := by
  revert p; decide
@[simp, grind =] theorem wakeC_stopLockPre (p : CPc) : (wakeC p).stopLockPre = p.stopLockPre := by
  revert p; decide
@[simp, grind =] theorem wakeC_inStop (p : CPc) : (wakeC p).inStop = p.inStop := by
  revert p; decide
@[simp, grind =] theorem wakeC_setoffPending (p : CPc) : (wakeC p).setoffPending = p.setoffPending := by
  revert p; decide
@[simp, grind =] theorem wakeC_quiet (p : CPc) : (wakeC p).quiet = p.quiet := by
  revert p; decide
@[simp, grind =] theorem wakeC_inSet (p : CPc) : (wakeC p).inSet = p.inSet := by
  revert p; decide
@[simp, grind =] theorem wakeC_atTrigNotify (p : CPc) : (wakeC p).atTrigNotify = p.atTrigNotify := by
  revert p; decide
@[simp, grind =] theorem wakeC_inGet (p : CPc) : (wakeC p).inGet = p.inGet := by
  revert p; decide

/-- between calls a caller is parked, after its script it joins, leaves or ends -/
theorem nextPc_cases (s : State) (w : Who) :
    s.nextPc w = .idle ∨ s.nextPc w = .joinB ∨ s.nextPc w = .exit ∨ s.nextPc w = .fin := by
  unfold State.nextPc afterScript; cases w <;> (repeat' split) <;> simp
grind_pattern nextPc_cases => s.nextPc w

@[simp, grind =] theorem nextPc_quiet (s : State) (w : Who) : (s.nextPc w).quiet = true := by
  rcases nextPc_cases s w with h | h | h | h <;> rw [h] <;> rfl
@[simp, grind =] theorem nextPc_holds (s : State) (w : Who) : (s.nextPc w).holds = false :=
  CPc.holds_of_quiet (nextPc_quiet s w)
@[simp, grind =] theorem nextPc_stopPre (s : State) (w : Who) : (s.nextPc w).stopPre = false :=
  CPc.stopPre_of_quiet (nextPc_quiet s w)
@[simp, grind =] theorem nextPc_stopTPre (s : State) (w : Who) : (s.nextPc w).stopTPre = false :=
  CPc.stopTPre_of_quiet (nextPc_quiet s w)
@[simp, grind =] theorem nextPc_stopLockPre (s : State) (w : Who) : (s.nextPc w).stopLockPre = false :=
  CPc.stopLockPre_of_quiet (nextPc_quiet s w)
@[simp, grind =] theorem nextPc_inStop (s : State) (w : Who) : (s.nextPc w).inStop = false :=
  CPc.inStop_of_quiet (nextPc_quiet s w)
@[simp, grind =] theorem nextPc_getSleeping (s : State) (w : Who) : (s.nextPc w).getSleeping = false :=
  CPc.getSleeping_of_quiet (nextPc_quiet s w)
@[simp, grind =] theorem nextPc_setoffPending (s : State) (w : Who) : (s.nextPc w).setoffPending = false :=
  CPc.setoffPending_of_quiet (nextPc_quiet s w)
@[simp, grind =] theorem nextPc_inSet (s : State) (w : Who) : (s.nextPc w).inSet = false :=
  CPc.inSet_of_quiet (nextPc_quiet s w)
@[simp, grind =] theorem nextPc_atTrigNotify (s : State) (w : Who) : (s.nextPc w).atTrigNotify = false :=
  CPc.atTrigNotify_of_quiet (nextPc_quiet s w)
@[simp, grind =] theorem nextPc_inGet (s : State) (w : Who) : (s.nextPc w).inGet = false :=
  CPc.inGet_of_quiet (nextPc_quiet s w)
@[simp] theorem nextPc_ne_unborn (s : State) (w : Who) : (s.nextPc w = CPc.unborn) = False := by
  rcases nextPc_cases s w with h | h | h | h <;> simp [h]
@[simp] theorem nextPc_ne_bstart (s : State) (w : Who) : (s.nextPc w = CPc.bstart) = False := by
  rcases nextPc_cases s w with h | h | h | h <;> simp [h]
@[simp] theorem nextPc_ne_createB (s : State) (w : Who) : (s.nextPc w = CPc.createB) = False := by
  rcases nextPc_cases s w with h | h | h | h <;> simp [h]
@[simp] theorem nextPc_ne_startCreate (s : State) (w : Who) : (s.nextPc w = CPc.startCreate) = False :=
  CPc.ne_of_quiet (nextPc_quiet s w) rfl
@[simp] theorem nextPc_ne_trigLock_user (s : State) (w : Who) : (s.nextPc w = CPc.trigLock .user) = False :=
  CPc.ne_of_quiet (nextPc_quiet s w) rfl
@[simp] theorem nextPc_ne_trigLock_stop_g (s : State) (w : Who) (g : Bool) : (s.nextPc w = CPc.trigLock (.stop g)) = False :=
  CPc.ne_of_quiet (nextPc_quiet s w) rfl
@[simp] theorem nextPc_ne_trigLock_setoff (s : State) (w : Who) : (s.nextPc w = CPc.trigLock .setoff) = False :=
  CPc.ne_of_quiet (nextPc_quiet s w) rfl
@[simp] theorem nextPc_ne_trigNotify_user (s : State) (w : Who) : (s.nextPc w = CPc.trigNotify .user) = False :=
  CPc.ne_of_quiet (nextPc_quiet s w) rfl
@[simp] theorem nextPc_ne_trigNotify_stop_g (s : State) (w : Who) (g : Bool) : (s.nextPc w = CPc.trigNotify (.stop g)) = False :=
  CPc.ne_of_quiet (nextPc_quiet s w) rfl
@[simp] theorem nextPc_ne_trigNotify_setoff (s : State) (w : Who) : (s.nextPc w = CPc.trigNotify .setoff) = False :=
  CPc.ne_of_quiet (nextPc_quiet s w) rfl
@[simp] theorem nextPc_ne_stopNotifyF_g (s : State) (w : Who) (g : Bool) : (s.nextPc w = CPc.stopNotifyF g) = False :=
  CPc.ne_of_quiet (nextPc_quiet s w) rfl
@[simp] theorem nextPc_ne_stopJoin_g (s : State) (w : Who) (g : Bool) : (s.nextPc w = CPc.stopJoin g) = False :=
  CPc.ne_of_quiet (nextPc_quiet s w) rfl
@[simp] theorem nextPc_ne_setLock_true (s : State) (w : Who) : (s.nextPc w = CPc.setLock true) = False :=
  CPc.ne_of_quiet (nextPc_quiet s w) rfl
@[simp] theorem nextPc_ne_setLock_false (s : State) (w : Who) : (s.nextPc w = CPc.setLock false) = False :=
  CPc.ne_of_quiet (nextPc_quiet s w) rfl
@[simp] theorem nextPc_ne_getLock (s : State) (w : Who) : (s.nextPc w = CPc.getLock) = False :=
  CPc.ne_of_quiet (nextPc_quiet s w) rfl
@[simp] theorem nextPc_ne_getWait (s : State) (w : Who) : (s.nextPc w = CPc.getWait) = False :=
  CPc.ne_of_quiet (nextPc_quiet s w) rfl
@[simp] theorem nextPc_ne_getAsleep_true (s : State) (w : Who) : (s.nextPc w = CPc.getAsleep true) = False :=
  CPc.ne_of_quiet (nextPc_quiet s w) rfl
@[simp] theorem nextPc_ne_getAsleep_false (s : State) (w : Who) : (s.nextPc w = CPc.getAsleep false) = False :=
  CPc.ne_of_quiet (nextPc_quiet s w) rfl

@[simp] theorem wakeC_eq_unborn (p : CPc) : (wakeC p = CPc.unborn) = (p = CPc.unborn) := by
  cases p <;> simp [wakeC]
@[simp] theorem wakeC_eq_bstart (p : CPc) : (wakeC p = CPc.bstart) = (p = CPc.bstart) := by
  cases p <;> simp [wakeC]
@[simp] theorem wakeC_eq_createB (p : CPc) : (wakeC p = CPc.createB) = (p = CPc.createB) := by
  cases p <;> simp [wakeC]
@[simp] theorem wakeC_eq_idle (p : CPc) : (wakeC p = CPc.idle) = (p = CPc.idle) := by
  cases p <;> simp [wakeC]
@[simp] theorem wakeC_eq_startCreate (p : CPc) : (wakeC p = CPc.startCreate) = (p = CPc.startCreate) := by
  cases p <;> simp [wakeC]
@[simp] theorem wakeC_eq_trigLock_user (p : CPc) : (wakeC p = CPc.trigLock .user) = (p = CPc.trigLock .user) := by
  cases p <;> simp [wakeC]
@[simp] theorem wakeC_eq_trigLock_stop_g (p : CPc) (g : Bool) : (wakeC p = CPc.trigLock (.stop g)) = (p = CPc.trigLock (.stop g)) := by
  cases p <;> simp [wakeC]
@[simp] theorem wakeC_eq_trigLock_setoff (p : CPc) : (wakeC p = CPc.trigLock .setoff) = (p = CPc.trigLock .setoff) := by
  cases p <;> simp [wakeC]
@[simp] theorem wakeC_eq_trigNotify_user (p : CPc) : (wakeC p = CPc.trigNotify .user) = (p = CPc.trigNotify .user) := by
  cases p <;> simp [wakeC]
@[simp] theorem wakeC_eq_trigNotify_stop_g (p : CPc) (g : Bool) : (wakeC p = CPc.trigNotify (.stop g)) = (p = CPc.trigNotify (.stop g)) := by
  cases p <;> simp [wakeC]
@[simp] theorem wakeC_eq_trigNotify_setoff (p : CPc) : (wakeC p = CPc.trigNotify .setoff) = (p = CPc.trigNotify .setoff) := by
  cases p <;> simp [wakeC]
@[simp] theorem wakeC_eq_stopNotifyF_g (p : CPc) (g : Bool) : (wakeC p = CPc.stopNotifyF g) = (p = CPc.stopNotifyF g) := by
  cases p <;> simp [wakeC]
@[simp] theorem wakeC_eq_stopJoin_g (p : CPc) (g : Bool) : (wakeC p = CPc.stopJoin g) = (p = CPc.stopJoin g) := by
  cases p <;> simp [wakeC]
@[simp] theorem wakeC_eq_setLock_true (p : CPc) : (wakeC p = CPc.setLock true) = (p = CPc.setLock true) := by
  cases p <;> simp [wakeC]
@[simp] theorem wakeC_eq_setLock_false (p : CPc) : (wakeC p = CPc.setLock false) = (p = CPc.setLock false) := by
  cases p <;> simp [wakeC]
@[simp] theorem wakeC_eq_getLock (p : CPc) : (wakeC p = CPc.getLock) = (p = CPc.getLock) := by
  cases p <;> simp [wakeC]
@[simp] theorem wakeC_eq_getWait (p : CPc) : (wakeC p = CPc.getWait) = (p = CPc.getWait) := by
  cases p <;> simp [wakeC]
@[simp] theorem wakeC_eq_joinB (p : CPc) : (wakeC p = CPc.joinB) = (p = CPc.joinB) := by
  cases p <;> simp [wakeC]
@[simp] theorem wakeC_eq_exit (p : CPc) : (wakeC p = CPc.exit) = (p = CPc.exit) := by
  cases p <;> simp [wakeC]
@[simp] theorem wakeC_eq_fin (p : CPc) : (wakeC p = CPc.fin) = (p = CPc.fin) := by
  cases p <;> simp [wakeC]
@[simp, grind =] theorem wakeC_eq_getAsleep_false (p : CPc) : (wakeC p = CPc.getAsleep false) = False := by
  cases p <;> simp [wakeC]

@[simp, grind =] theorem wakeC_getSleeping (p : CPc) : (wakeC p).getSleeping = (p == .getWait) := by
  revert p; decide

end AcqVerif.SimConc
