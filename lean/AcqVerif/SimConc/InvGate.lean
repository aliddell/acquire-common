import AcqVerif.SimConc.InvIds
/-!
# Invariants, part 3: trigger gating

`gated` = the software frame trigger was enabled when the run started and no call switching it off
began since.  `issued` counts the user triggers that stored `triggered = 1` in this run, `gen` the
frames generated, `ndeliv` the frames delivered.  The internal triggers of `simcam_stop` (fired after
`is_running = 0`) and of `simcam_set` (which ends the gated period) are not counted.
The step `start` is where the repair is needed: `triggered` must be clear when a run begins.
-/
namespace AcqVerif.SimConc

structure InvG (s : State) : Prop where
  gatedEnable : s.gated → s.enable
  setoff : (s.pa.setoffPending ∨ s.pb.setoffPending) → s.gated = false
  consumed : s.gated → s.running → s.gen ≤ s.issued ∧ (s.triggered → s.gen + 1 ≤ s.issued)
  delivLast : s.ndeliv ≤ s.last
  delivIssued : s.gated → s.ndeliv ≤ s.issued
  cntD : s.ndeliv = cntD s.log
  cntT : s.issued = cntT s.log

theorem invG_iff (s : State) : InvG s ↔
    ((s.gated → s.enable) ∧ ((s.pa.setoffPending ∨ s.pb.setoffPending) → s.gated = false) ∧
     (s.gated → s.running → s.gen ≤ s.issued ∧ (s.triggered → s.gen + 1 ≤ s.issued)) ∧
     s.ndeliv ≤ s.last ∧ (s.gated → s.ndeliv ≤ s.issued) ∧
     s.ndeliv = cntD s.log ∧ s.issued = cntT s.log) :=
  ⟨fun ⟨a, b, c, d, e, f, g⟩ => ⟨a, b, c, d, e, f, g⟩, fun ⟨a, b, c, d, e, f, g⟩ => ⟨a, b, c, d, e, f, g⟩⟩

theorem invG_init (A : List Op) (B : Option (List Op)) : InvG (init A B) := by
  cases B <;> cases A <;> constructor <;> simp [init, cntD, cntT]

theorem invG_step {s s' : State} (t : Tid) (h1 : InvR s) (h2 : InvI s) (h : InvG s)
    (hs : step s t = some s') : InvG s' := by
  obtain ⟨g1, g2, g3, g4, g5, g6, g7⟩ := h
  obtain ⟨i1, i2, i3, i4, i5, i6, i7, i8⟩ := h2
  obtain ⟨r1, r2, r3, r4, r5⟩ := h1
  rw [invG_iff]
  cases t <;> step_cases hs
  all_goals (simp only [cntD, cntT])
  all_goals grind

end AcqVerif.SimConc
