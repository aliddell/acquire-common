import AcqVerif.SimConc.InvGate
import AcqVerif.SimConc.InvWake
/-!
# The invariant of the simulated-camera model, reachability, and the stop measure
-/
namespace AcqVerif.SimConc

structure Inv (s : State) : Prop where
  str : InvS s
  run : InvR s
  lock : InvL s
  ids : InvI s
  gate : InvG s
  wake : InvW s

theorem inv_init (A : List Op) (B : Option (List Op)) : Inv (init A B) :=
  ⟨invS_init A B, invR_init A B, invL_init A B, invI_init A B, invG_init A B, invW_init A B⟩

theorem inv_step {s s' : State} (t : Tid) (h : Inv s) (hs : step s t = some s') : Inv s' :=
  ⟨invS_step t h.str hs, invR_step t h.str h.run hs, invL_step t h.str h.run h.lock hs,
   invI_step t h.run h.ids hs, invG_step t h.run h.ids h.gate hs,
   invW_step t h.str h.run h.lock h.wake hs⟩

/-- the invariant holds in every state reachable under any schedule, for any caller scripts -/
theorem inv_reach {A : List Op} {B : Option (List Op)} {s : State} (h : Reach (init A B) s) : Inv s := by
  induction h with
  | refl => exact inv_init A B
  | step t _ hs ih => exact inv_step t ih hs

/-- run a schedule (list of thread choices); `none` if a chosen thread is not enabled -/
def runSched (s : State) : List Tid → Option State
  | [] => some s
  | t :: r => (step s t).bind fun s' => runSched s' r

theorem reach_runSched {s0 s1 s : State} {l : List Tid} (h1 : Reach s0 s1) (h : runSched s1 l = some s) :
    Reach s0 s := by
  induction l generalizing s1 with
  | nil => cases h; exact h1
  | cons t r ih =>
    simp only [runSched] at h
    cases hst : step s1 t with
    | none => simp [hst] at h
    | some s2 => rw [hst] at h; exact ih (.step t h1 hst) h

theorem reach_of_runSched {s0 s : State} {l : List Tid} (h : runSched s0 l = some s) : Reach s0 s :=
  reach_runSched .refl h

/-- how far the streamer is from the end of its thread function once `is_running` is clear -/
def mu : SPc → Nat
  | .none => 0
  | .fin => 0
  | .notifyF => 1
  | .start => 1
  | .lock2 => 2
  | .sleep => 3
  | .asleepT true => 4
  | .asleepT false => 5
  | .waitT => 6
  | .lock1 => 7

theorem mu_le (p : SPc) : mu p ≤ 7 := by
  revert p; decide

/-- with `is_running` clear every step of the streamer brings it closer to its end -/
theorem streamer_measure {s s' : State} (h : Inv s) (hr : s.running = false) (hs : step s .s = some s') :
    mu s'.ps < mu s.ps ∧ s'.running = false := by
  have w7 := h.wake.woken
  step_cases hs
  all_goals grind [mu]

/-- a step of a caller never moves the streamer backwards: it leaves the streamer's parking point
alone, or wakes it, or (the end of `start`) creates a new streamer -/
theorem caller_step_streamer {s s' : State} (w : Who) (hs : step s w.tid = some s') :
    s'.ps = s.ps ∨ (∃ n, s.ps = .asleepT n ∧ s'.ps = .asleepT true) ∨
      (s.pc w = .startCreate ∧ s'.ps = .start) := by
  cases w
  all_goals
    step_cases hs
    all_goals grind [State.pc]

/-- a thread the streamer may be waiting for: the holder of the lock -/
def LockHolderEnabled (s : State) : Prop := ∃ t, s.owner = some t ∧ enabled s t = true

theorem enabled_tid (s : State) (w : Who) : enabled s w.tid = (cstep s w).isSome := by
  cases w <;> rfl

theorem enabled_of_holds {s : State} {w : Who} (h : (s.pc w).holds = true) : enabled s w.tid = true := by
  rw [enabled_tid, cstep]
  cases hp : s.pc w <;> simp [hp] at h ⊢
  rename_i k
  cases k <;> rfl

/-- a caller on its way to the `notify_all(trigger_ready)` of `simcam_stop` needs at most the lock -/
theorem enabled_of_stopTPre {s : State} {w : Who} (h : (s.pc w).stopTPre = true) (ho : s.owner = none) :
    enabled s w.tid = true := by
  rw [enabled_tid, cstep]
  cases hp : s.pc w <;> simp [hp] at h ⊢
  all_goals
    rename_i k
    cases k <;> simp [ho] at h ⊢

/-- the streamer can step unless it is finished, waits for the lock, or sleeps un-notified -/
theorem enabled_streamer {s : State}
    (h : s.ps.holds = true ∨ (s.ps.alive = true ∧ s.owner = none ∧ s.ps ≠ .asleepT false)) :
    enabled s .s = true := by
  cases hp : s.ps <;> simp_all [enabled, step, sstep]

/-- whoever holds the lock is parked inside its critical section and can always take a step -/
theorem lockHolderEnabled_of_owner {s : State} (h : InvL s) {t : Tid} (ho : s.owner = some t) :
    LockHolderEnabled s := by
  refine ⟨t, ho, ?_⟩
  cases t
  · exact enabled_of_holds (w := .a) (h.a.mp ho)
  · exact enabled_of_holds (w := .b) (h.b.mp ho)
  · exact enabled_streamer (.inl (h.s.mp ho))

/-- While a `simcam_stop` is in progress the streamer is never stuck: it is enabled, or it waits for
the lock and the holder of the lock is enabled, or it sleeps on `trigger_ready` and a stopping caller
has its `notify_all(trigger_ready)` still ahead and is itself enabled or waits only for the lock
whose holder is enabled. -/
theorem streamer_not_stuck {s : State} (h : Inv s) (hstop : s.pa.inStop ∨ s.pb.inStop) (ha : s.ps.alive) :
    enabled s .s = true ∨ LockHolderEnabled s ∨
      (s.ps = .asleepT false ∧
        ((s.pa.stopTPre ∧ (enabled s .a = true ∨ LockHolderEnabled s)) ∨
         (s.pb.stopTPre ∧ (enabled s .b = true ∨ LockHolderEnabled s)))) := by
  cases ho : s.owner with
  | some t => exact .inr (.inl (lockHolderEnabled_of_owner h.lock ho))
  | none =>
    by_cases hp : s.ps = .asleepT false
    · refine .inr (.inr ⟨hp, ?_⟩)
      rcases h.wake.stopT (by simp [hp]) (h.run.stopNotRunning hstop) with hA | hB
      · exact .inl ⟨hA, .inl (enabled_of_stopTPre (w := .a) hA ho)⟩
      · exact .inr ⟨hB, .inl (enabled_of_stopTPre (w := .b) hB ho)⟩
    · exact .inl (enabled_streamer (.inr ⟨ha, ho, hp⟩))

end AcqVerif.SimConc
