import AcqVerif.SimConc.Inv
/-!
# Invariants, part 4: no lost wake-up

A waiter sleeps (un-notified) only while its wait condition is false or a notifier is pending:
* a frame call asleep on `frame_ready`: the camera runs and no newer frame is published, or the
  streamer is about to notify (`notifyF`), or a `simcam_stop` is on its way to its
  `notify_all(frame_ready)` (`stopPre`);
* the streamer asleep on `trigger_ready` **after `is_running` was cleared**: a `simcam_stop` is on its
  way to its `notify_all(trigger_ready)` (`stopTPre`).  (While the camera runs the corresponding
  statement is false in the C as it is: `simcam_set` fires its trigger *before* it clears `enable`,
  see `set_off_race` in `Props/C18.lean`.)
-/
namespace AcqVerif.SimConc

structure InvW (s : State) : Prop where
  waitA : s.pa = .getWait → (s.running ∧ s.fid ≤ s.last) ∨ s.pb.stopLockPre
  waitB : s.pb = .getWait → (s.running ∧ s.fid ≤ s.last) ∨ s.pa.stopLockPre
  sleepA : s.pa = .getAsleep false → (s.running ∧ s.fid ≤ s.last) ∨ s.ps = .notifyF ∨ s.pb.stopPre
  sleepB : s.pb = .getAsleep false → (s.running ∧ s.fid ≤ s.last) ∨ s.ps = .notifyF ∨ s.pa.stopPre
  stopT : s.ps.waitingT → s.running = false → (s.pa.stopTPre ∨ s.pb.stopTPre)
  atLock1 : s.ps.atLock1 → s.running = false → s.triggered ∨ s.pa.stopLockPre ∨ s.pb.stopLockPre
  woken : s.ps = .asleepT true → s.triggered
  notifier : (s.pa.atTrigNotify ∨ s.pb.atTrigNotify) → s.triggered

theorem invW_iff (s : State) : InvW s ↔
    ((s.pa = .getWait → (s.running ∧ s.fid ≤ s.last) ∨ s.pb.stopLockPre) ∧
     (s.pb = .getWait → (s.running ∧ s.fid ≤ s.last) ∨ s.pa.stopLockPre) ∧
     (s.pa = .getAsleep false → (s.running ∧ s.fid ≤ s.last) ∨ s.ps = .notifyF ∨ s.pb.stopPre) ∧
     (s.pb = .getAsleep false → (s.running ∧ s.fid ≤ s.last) ∨ s.ps = .notifyF ∨ s.pa.stopPre) ∧
     (s.ps.waitingT → s.running = false → (s.pa.stopTPre ∨ s.pb.stopTPre)) ∧
     (s.ps.atLock1 → s.running = false → s.triggered ∨ s.pa.stopLockPre ∨ s.pb.stopLockPre) ∧
     (s.ps = .asleepT true → s.triggered) ∧
     ((s.pa.atTrigNotify ∨ s.pb.atTrigNotify) → s.triggered)) :=
  ⟨fun ⟨a, b, c, d, e, f, g, h⟩ => ⟨a, b, c, d, e, f, g, h⟩, fun ⟨a, b, c, d, e, f, g, h⟩ => ⟨a, b, c, d, e, f, g, h⟩⟩

theorem invW_init (A : List Op) (B : Option (List Op)) : InvW (init A B) := by
  cases B <;> cases A <;> constructor <;> simp [init]

theorem invW_step {s s' : State} (t : Tid) (h0 : InvS s) (h1 : InvR s) (h2 : InvL s) (h : InvW s)
    (hs : step s t = some s') : InvW s' := by
  obtain ⟨w1, w2, w3, w4, w5, w6, w7, w8⟩ := h
  obtain ⟨la, lb, lc⟩ := h2
  obtain ⟨s1, s2, s3⟩ := h0
  obtain ⟨r1, r2, r3, r4, r5⟩ := h1
  rw [invW_iff]
  cases t <;> step_cases hs
  all_goals simp
  all_goals grind

end AcqVerif.SimConc
