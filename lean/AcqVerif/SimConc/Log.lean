import AcqVerif.SimConc.Model
/-!
# Predicates on the ghost event log of the simulated-camera model

`State.log` is newest-first.  A *run* is the part of the log after (= in front of) the latest
`started` event.  Ids in `published` / `delivered` events are shifted by one (`id = C value + 1`).
-/
namespace AcqVerif.SimConc

/-- shifted id of the latest frame delivered in the current run, `0` if none -/
def lastOf : List Ev → Nat
  | [] => 0
  | .started :: _ => 0
  | .delivered id _ :: _ => id
  | .res _ _ _ :: t => lastOf t
  | .utrig :: t => lastOf t
  | .generated _ :: t => lastOf t
  | .published _ _ :: t => lastOf t

/-- `okFrom b l`: scanning the log from the newest event to the oldest, every delivered id is
smaller than the next newer id delivered in the same run (`b` = that newer id, if any); a `started`
event forgets the bound. -/
def okFrom : Option Nat → List Ev → Prop
  | _, [] => True
  | _, .started :: t => okFrom none t
  | b, .delivered id _ :: t => (∀ x, b = some x → id < x) ∧ okFrom (some id) t
  | b, .res _ _ _ :: t => okFrom b t
  | b, .utrig :: t => okFrom b t
  | b, .generated _ :: t => okFrom b t
  | b, .published _ _ :: t => okFrom b t

/-- Within every run the ids handed out by successive frame calls increase strictly (in particular
no frame is handed out twice); a `started` event begins a new run, whose ids are unrelated to the
previous run's. -/
def IdsIncrease (l : List Ev) : Prop := okFrom none l

/-- frames delivered in the current run -/
def cntD : List Ev → Nat
  | [] => 0
  | .started :: _ => 0
  | .delivered _ _ :: t => cntD t + 1
  | .res _ _ _ :: t => cntD t
  | .utrig :: t => cntD t
  | .generated _ :: t => cntD t
  | .published _ _ :: t => cntD t

/-- user triggers that reached the camera in the current run -/
def cntT : List Ev → Nat
  | [] => 0
  | .started :: _ => 0
  | .utrig :: t => cntT t + 1
  | .res _ _ _ :: t => cntT t
  | .delivered _ _ :: t => cntT t
  | .generated _ :: t => cntT t
  | .published _ _ :: t => cntT t

/-- frames generated in the current run -/
def cntG : List Ev → Nat
  | [] => 0
  | .started :: _ => 0
  | .generated _ :: t => cntG t + 1
  | .res _ _ _ :: t => cntG t
  | .delivered _ _ :: t => cntG t
  | .utrig :: t => cntG t
  | .published _ _ :: t => cntG t

/-- Every published id is exactly the number of frames generated so far in the run (in C:
`id = generated - 1`; the number is both the streamer's count `g` recorded with the event and the
number of `generated` events of the run that precede it in the log), and every delivered id is a
published one: at least `0` in C and at most the number of frames generated so far minus one. -/
def Counts : List Ev → Prop
  | [] => True
  | .published id g :: t => id = g ∧ g = cntG t ∧ Counts t
  | .delivered id g :: t => 1 ≤ id ∧ id ≤ g ∧ g = cntG t ∧ Counts t
  | .started :: t => Counts t
  | .res _ _ _ :: t => Counts t
  | .utrig :: t => Counts t
  | .generated _ :: t => Counts t

/-- a bound above the latest delivered id of the run is a valid bound for the whole log -/
theorem okFrom_of_lastOf_lt {l : List Ev} {x : Nat} (h : okFrom none l) (hx : lastOf l < x) :
    okFrom (some x) l := by
  induction l with
  | nil => trivial
  | cons e t ih =>
    cases e <;> simp only [okFrom, lastOf] at h hx ⊢
    case started => exact h
    case delivered => exact ⟨fun y hy => Option.some.inj hy ▸ hx, h.2⟩
    all_goals exact ih h hx

end AcqVerif.SimConc
