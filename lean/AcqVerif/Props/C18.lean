import AcqVerif.SimConc.InvAll
/-!
# C18 — simulated cameras deliver fresh, increasing, trigger-gated frames

Model: `AcqVerif.SimConc.Model` (interleaving transition system of the streamer thread of
`simulated.camera.c` against two caller threads, at synchronisation-call granularity, for the
code with `fixes/18-simcam-start-clears-stale-trigger.patch` applied).
All theorems are for **every** pair of caller scripts `A`, `B` (histories of `on`/`off`/`start`/
`stop`/`trig`/`get` calls, across restarts) and **every** state reachable under **any** schedule
(`Reach (init A B) s`); they are consequences of the inductive invariant `Inv` (`inv_reach`).

Ids are shifted by one (`0` stands for the C value `-1`).
-/
namespace AcqVerif.C18
open AcqVerif.SimConc

/-- (1a) Within a run every frame call that delivers a frame returns an id strictly greater than the
one delivered before it (so no frame is delivered twice); a `start` begins a new run. -/
theorem ids_strictly_increase (A : List Op) (B : Option (List Op)) (s : State)
    (h : Reach (init A B) s) : IdsIncrease s.log :=
  (inv_reach h).ids.incr

/-- (1b) The id counts the frames generated so far in the run, and the count restarts with each
start: every published id equals the number of frames generated since the last `started` event,
every delivered id is at least `0` (C) and at most that number minus one. -/
theorem ids_count_generated_frames (A : List Op) (B : Option (List Op)) (s : State)
    (h : Reach (init A B) s) : Counts s.log ∧ s.gen = cntG s.log ∧ (0 < s.nruns → s.fid ≤ s.gen) :=
  ⟨(inv_reach h).ids.counts, (inv_reach h).ids.genLog, (inv_reach h).ids.fidGen⟩

/-- (2) With the software frame trigger enabled for the whole run so far (`gated`): frames delivered
≤ user triggers issued, and while the camera runs: frames published ≤ frames generated (= triggers
consumed) ≤ user triggers issued — counted on the log since the last start.  The triggers that
`simcam_stop` and `simcam_set` fire themselves are not counted and never lead to a delivery. -/
theorem trigger_gated (A : List Op) (B : Option (List Op)) (s : State)
    (h : Reach (init A B) s) (hg : s.gated = true) :
    s.enable = true ∧ cntD s.log ≤ cntT s.log ∧
      (s.running = true → s.fid ≤ cntG s.log ∧ cntG s.log ≤ cntT s.log) := by
  have hi := inv_reach h
  have g := hi.gate
  rw [← g.cntD, ← g.cntT, ← hi.ids.genLog]
  exact ⟨g.gatedEnable hg, g.delivIssued hg,
    fun hr => ⟨hi.ids.fidGen (hi.run.runs hr), (g.consumed hg hr).1⟩⟩

/-- in particular: no frame before the first trigger -/
theorem no_frame_before_first_trigger (A : List Op) (B : Option (List Op)) (s : State)
    (h : Reach (init A B) s) (hg : s.gated = true) (h0 : cntT s.log = 0) : cntD s.log = 0 := by
  have := (trigger_gated A B s h hg).2.1
  omega

/-- (3a) No lost wake-up for a pending frame call: a caller sleeps un-notified on `frame_ready` only
while its wait condition still says "wait" (the camera runs and nothing newer than what it has seen
is published) or a notifier is pending (the streamer is at its `notify_all`, or the other caller is
inside `simcam_stop` before its `notify_all(frame_ready)`). -/
theorem no_lost_wakeup_frame_call (A : List Op) (B : Option (List Op)) (s : State)
    (h : Reach (init A B) s) (w : Who) (hw : s.pc w = .getAsleep false) :
    (s.running = true ∧ s.fid ≤ s.last) ∨ s.ps = .notifyF ∨ (s.pc w.other).stopPre = true := by
  have hi := (inv_reach h).wake
  cases w
  · exact hi.sleepA hw
  · exact hi.sleepB hw

/-- (3b) No lost wake-up for the streamer once a stop has cleared `is_running`: if it is at the entry
of the wait or asleep un-notified on `trigger_ready`, some caller is inside `simcam_stop` with its
`notify_all(trigger_ready)` still ahead; and if it has yet to take the lock or was woken, the
trigger flag is set or such a caller has yet to set it — it will not go (back) to sleep. -/
theorem no_lost_wakeup_streamer_on_stop (A : List Op) (B : Option (List Op)) (s : State)
    (h : Reach (init A B) s) (hr : s.running = false) :
    (s.ps.waitingT = true → s.pa.stopTPre = true ∨ s.pb.stopTPre = true) ∧
    (s.ps.atLock1 = true → s.triggered = true ∨ s.pa.stopLockPre = true ∨ s.pb.stopLockPre = true) :=
  ⟨fun hw => (inv_reach h).wake.stopT hw hr, fun hl => (inv_reach h).wake.atLock1 hl hr⟩

/-- (3c) `stop`'s join terminates after boundedly many streamer steps: once `is_running` is clear,
every step of the streamer strictly decreases the measure `mu` (at most 7) and leaves `is_running`
clear; a step of a caller leaves the streamer where it is or wakes it (which also decreases `mu`),
unless it is the `thread_create` at the end of a `start`. -/
theorem stop_join_measure (A : List Op) (B : Option (List Op)) (s s' : State)
    (h : Reach (init A B) s) (hr : s.running = false) :
    (step s .s = some s' → mu s'.ps < mu s.ps ∧ s'.running = false) ∧
    (∀ w : Who, step s w.tid = some s' → s.pc w ≠ .startCreate → mu s'.ps ≤ mu s.ps) ∧
    mu s.ps ≤ 7 := by
  refine ⟨fun hs => streamer_measure (inv_reach h) hr hs, fun w hs hne => ?_, mu_le s.ps⟩
  rcases caller_step_streamer w hs with h1 | ⟨n, h1, h2⟩ | ⟨h1, _⟩
  · rw [h1]; exact Nat.le_refl _
  · rw [h1, h2]; cases n <;> decide
  · exact absurd h1 hne

/-- (3d) While a `simcam_stop` is in progress and the streamer has not finished, the streamer is
never stuck: it is enabled, or the lock it needs is held by an enabled thread, or it sleeps and the
stopping caller that still has to notify it is enabled (or waits only for the lock, whose holder is
enabled).  And once the streamer has finished, the `thread_join` of `simcam_stop` is enabled. -/
theorem stop_streamer_progress (A : List Op) (B : Option (List Op)) (s : State)
    (h : Reach (init A B) s) (hstop : s.pa.inStop = true ∨ s.pb.inStop = true) :
    (s.ps.alive = true →
      enabled s .s = true ∨ LockHolderEnabled s ∨
        (s.ps = .asleepT false ∧
          ((s.pa.stopTPre = true ∧ (enabled s .a = true ∨ LockHolderEnabled s)) ∨
           (s.pb.stopTPre = true ∧ (enabled s .b = true ∨ LockHolderEnabled s))))) ∧
    (∀ (w : Who) (g : Bool), s.pc w = .stopJoin g → s.ps = .fin → enabled s w.tid = true) := by
  refine ⟨fun ha => streamer_not_stuck (inv_reach h) hstop ha, fun w g hw hf => ?_⟩
  simp [enabled_tid, cstep, hw, hf]

/-- (3e) Stop unblocks a pending frame call: once `is_running` is clear, a frame call is still asleep
un-notified only while a notifier is on its way (the streamer at its `notify_all`, or the stopping
caller before its `notify_all(frame_ready)`); and a frame call that was woken, or that has yet to take
the lock, returns at its very next step, without a frame. -/
theorem stop_unblocks_frame_call (A : List Op) (B : Option (List Op)) (s : State)
    (h : Reach (init A B) s) (hr : s.running = false) (w : Who) :
    (s.pc w = .getAsleep false → s.ps = .notifyF ∨ (s.pc w.other).stopPre = true) ∧
    (∀ s', (s.pc w = .getAsleep true ∨ s.pc w = .getLock) → step s w.tid = some s' →
      (s'.pc w).quiet = true ∧ s'.log.head? = some (.res w .get .noframe)) := by
  refine ⟨fun hw => ?_, fun s' hp hs => ?_⟩
  · rcases no_lost_wakeup_frame_call A B s h w hw with ⟨h1, _⟩ | h2
    · rw [hr] at h1; cases h1
    · exact h2
  · cases w <;> simp only [State.pc] at hp <;> step_cases hs <;> simp_all [State.pc]

/-! ## Non-vacuity: concrete reachable states (schedules taken from runs of the real code) -/

open Tid in
/-- one caller: `on, start, trig, get, stop`; after 20 steps the frame call has delivered id 0 (C) in
a gated, running camera with one trigger issued -/
example : ∃ s, Reach (init [.on, .start, .trig, .get, .stop] none) s ∧ s.gated = true ∧ s.running = true ∧
    cntD s.log = 1 ∧ cntT s.log = 1 ∧ cntG s.log = 1 ∧ s.fid = 1 ∧
    s.log.head? = some (.res .a .get (.frame 0)) :=
  ⟨_, reach_of_runSched (l := [a, a, a, a, s, s, s, a, a, a, s, a, a, a, s, s, s, s, s, a]) rfl,
    by decide, by decide, by decide, by decide, by decide, by decide, by decide⟩

open Tid in
/-- free-running camera, `start, get, get, stop`: two deliveries with ids 0 and 2 (a gap: frame 1 was
generated and dropped); the predicates hold and are not trivially true -/
example : ∃ s, Reach (init [.start, .get, .get, .stop] none) s ∧
    (s.log.filter fun e => match e with | .delivered _ _ => true | _ => false) = [.delivered 3 4, .delivered 1 2] :=
  ⟨_, reach_of_runSched (l := [a, a, s, s, a, a, a, s, s, s, s, a, s, s, a, a, a, s, s, s, s, a, s, s, a, a, a, a, s, s, s, a, a]) rfl,
    by decide⟩

example : IdsIncrease [.delivered 3 3, .generated 3, .delivered 1 1, .started, .delivered 7 7] := by
  simp [IdsIncrease, okFrom]
example : ¬ IdsIncrease [.delivered 2 2, .res .a .get (.frame 1), .delivered 2 2] := by
  simp [IdsIncrease, okFrom]
example : ¬ Counts [.published 2 1, .generated 1, .started] := by simp [Counts]
example : Counts [.delivered 1 1, .published 1 1, .generated 1, .started] := by simp [Counts, cntG]

open Tid in
/-- two callers, `a: on, start, stop`, `b: get, get`: `b` sleeps on `frame_ready` (un-notified) in a
running gated camera with no trigger; hypothesis of (3a) -/
example : ∃ s, Reach (init [.on, .start, .stop] (some [.get, .get])) s ∧ s.pc .b = .getAsleep false ∧
    s.running = true ∧ s.gated = true ∧ cntT s.log = 0 :=
  ⟨_, reach_of_runSched (l := [a, b, a, a, b, a, a, b, b, b]) rfl, by decide, by decide, by decide, by decide⟩

open Tid in
/-- … and after `a` began its stop (`is_running` clear, `a` parked at the lock of its internal
trigger) the streamer sleeps un-notified: hypotheses of (3b), (3c), (3d) -/
example : ∃ s, Reach (init [.on, .start, .stop] (some [.get, .get])) s ∧ s.running = false ∧
    s.ps = .asleepT false ∧ s.pa = .trigLock (.stop false) ∧ s.pb = .getAsleep false :=
  ⟨_, reach_of_runSched (l := [a, b, a, a, b, a, a, b, b, b, s, s, s, a]) rfl, by decide, by decide, by decide, by decide⟩

/-- The general form of (3b) — "the streamer sleeps un-notified only while `enable ∧ ¬triggered` or a
notifier is pending", also while the camera runs — is **false for the C as it is**: `simcam_set`
fires its trigger *before* it clears `enable`, the streamer may consume it and go back to sleep, and
then sleeps with the trigger disabled (a frame call then waits until the next trigger or stop).
This does not contradict the property (stop still wakes it); it is reported as an observation. -/
def StreamerNeverSleepsWithTriggerOff : Prop :=
  ∀ (A : List Op) (B : Option (List Op)) (s : State), Reach (init A B) s →
    s.ps = .asleepT false → (s.enable = true ∧ s.triggered = false) ∨ s.pa.atTrigNotify = true ∨ s.pb.atTrigNotify = true

open Tid in
theorem set_off_race : ¬ StreamerNeverSleepsWithTriggerOff := by
  intro h
  have hr : Reach (init [.on, .start, .off, .stop] none) _ :=
    reach_of_runSched (l := [a, a, a, a, s, s, s, a, a, a, s, s, s, s, s, s, a]) rfl
  have := h _ _ _ hr (by decide)
  revert this
  decide

end AcqVerif.C18
