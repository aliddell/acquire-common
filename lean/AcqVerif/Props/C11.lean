import AcqVerif.Hal.Inv
/-!
# C11 — HAL wrappers enforce the device protocol and never touch a closed device

For **every** finite history of HAL calls (`History = List (Call × Q)`: camera and storage
`open / set / get / get_meta / get_shape / start / stop / trigger / get_frame / append /
reserve / validate / close`, with every argument class) and **every** answer the driver gives
(`Q`: arbitrary numbers for status codes, `DeviceState`s, the initial state of a new device,
a NULL device, a failing `describe`), about the model of `hal/camera.c`, `hal/storage.c`,
`hal/driver.c` in `AcqVerif/Hal/Model.lean`.

The log contains the driver's view (open / describe / close / vtable calls with answers) *and*
every read and write of the device object's memory.
-/
namespace AcqVerif.C11
open AcqVerif.Hal

/-- **The driver sees only legal calls.**  The complete event log of any history is accepted by
the protocol automaton (`autoStep`): a `stop` reaches the driver only while the device's `state`
field is Running and a successful `start` is not yet stopped; `get_frame` / `append` likewise;
`describe`, every vtable call, every read and every write of the device object happen only while
the device is open (created by the driver, not yet closed); `close` only on an open device. -/
theorem C11_protocol_accepts (h : History) : Accepted (run {} h).2 := by
  obtain ⟨b', h1⟩ := run_init h
  simp [Accepted, h1]

example : Accepted (run {} [(.camOpen, [0, Await, Ok]), (.camStart, [Ok]), (.camGetFrame, [Err, Ok]),
    (.camSet true, [Err]), (.camClose, [Ok]), (.stoOpen, [0, Await, Err, Ok]), (.stoOpen, [0, Await, Ok]),
    (.stoSet true, [Running]), (.stoAppend 2, [Running]), (.stoClose, [Armed, Err])]).2 := by decide

/-- the log of that history really contains the restricted calls (the theorem is not about empty logs) -/
example : Ev.call 0 .getFrame Err ∈ (run {} [(.camOpen, [0, Await, Ok]), (.camStart, [Ok]), (.camGetFrame, [Err, Ok])]).2
    ∧ Ev.call 0 .stop Ok ∈ (run {} [(.camOpen, [0, Await, Ok]), (.camStart, [Ok]), (.camGetFrame, [Err, Ok])]).2 := by decide

/-- the automaton is not vacuous: it rejects the behaviour of the unrepaired `storage_close`
(a store into the device after the driver's close), a `stop` without `start`, a frame outside Running,
and a second close -/
example : ¬ Accepted [.drvOpen Ok (some (0, .storage, Await)), .drvDescribe 0 Ok, .drvClose 0 Ok, .wr 0 .state Closed] := by decide
example : ¬ Accepted [.drvOpen Ok (some (0, .camera, Await)), .call 0 .stop Ok] := by decide
example : ¬ Accepted [.drvOpen Ok (some (0, .camera, Await)), .call 0 .start Err, .wr 0 .state Await, .call 0 .getFrame Ok] := by decide
example : ¬ Accepted [.drvOpen Ok (some (0, .storage, Await)), .drvClose 0 Ok, .drvClose 0 Ok] := by decide

/-- **Exactly one close per open.**  After any history, with `s` the HAL state and `log` the event log:
every ordinal below `s.nopen` is a device the driver handed out (`drvOpen Ok`), and
* if it is the device behind the caller's handle, the driver has not been asked to close it;
* otherwise (the caller closed it, `storage_validate` used it, or `describe` failed after `open`
  succeeded) the log contains exactly one `drvClose` of it, and nothing about it afterwards. -/
theorem C11_one_close_per_open (h : History) (id : Nat) (hid : id < (run {} h).1.nopen) :
    (∃ k i, Ev.drvOpen Ok (some (id, k, i)) ∈ (run {} h).2) ∧
    ((∃ d, (run {} h).1.dev = some d ∧ d.id = id ∧ ∀ r, Ev.drvClose id r ∉ (run {} h).2) ∨
     ((∀ d, (run {} h).1.dev = some d → d.id ≠ id) ∧
      ∃ pre r post, (run {} h).2 = pre ++ Ev.drvClose id r :: post ∧
        (∀ r', Ev.drvClose id r' ∉ pre) ∧ (∀ e ∈ post, e.dev ≠ some id))) := by
  obtain ⟨b', h1⟩ := run_init h
  have hn : id < (mirror (run {} h).1 b').n := hid
  refine ⟨(opened_in_log h1 hn).resolve_left (Nat.not_lt_zero id), ?_⟩
  by_cases hlive : id ∈ ids (mirror (run {} h).1 b').live
  · left
    obtain ⟨d, hd1, hd2⟩ := mem_ids_mirror.mp hlive
    refine ⟨d, hd1, hd2, fun r hmem => ?_⟩
    -- a close of `id` anywhere in the log makes `id` dead at the end
    obtain ⟨pre, post, hsplit⟩ := List.append_of_mem hmem
    exact (after_close bounded_init (hsplit ▸ h1)).2 hlive
  · right
    refine ⟨fun d hd hc => hlive (mem_ids_mirror.mpr ⟨d, hd, hc⟩), ?_⟩
    obtain ⟨r, h2⟩ := (closed_in_log h1 hn hlive).resolve_left fun h2 => Nat.not_lt_zero id h2.1
    -- any close of `id` in the log will do: nothing about `id` follows a close, so there is none before it either
    obtain ⟨pre, post, g1⟩ := List.append_of_mem h2
    rw [g1] at h1
    refine ⟨pre, r, post, g1, fun r' hm => ?_, (after_close bounded_init h1).1⟩
    obtain ⟨p1, p2, rfl⟩ := List.append_of_mem hm
    rw [List.append_assoc, List.cons_append] at h1
    exact (after_close bounded_init h1).1 (Ev.drvClose id r) (by simp) rfl

/-- a history in which all three ways of losing a device occur: `describe` fails (device 0), the caller closes
(device 1), `storage_validate` (device 2); device 3 is still held -/
example :
    let r := run {} [(.stoOpen, [0, Await, Err, Ok]), (.camOpen, [0, Await, Ok]), (.camClose, [Ok]),
      (.stoValidate, [0, Await, Ok, Armed, Ok]), (.stoOpen, [0, Await, Ok])]
    r.1.nopen = 4 ∧ r.1.dev.map (·.id) = some 3 ∧
      (r.2.filter fun e => match e with | .drvClose _ _ => true | _ => false) = [.drvClose 0 Ok, .drvClose 1 Ok, .drvClose 2 Ok] := by
  decide

/-- **Nothing afterwards, not even a memory write.**  In the log of any history, no event after a
`drvClose id` is about device `id`: no vtable call, no `describe`, no second `close`, no read and no
write of the device object (`Ev.dev` covers all of them), and no new device under that ordinal. -/
theorem C11_nothing_after_close (h : History) (pre post : List Ev) (id r : Nat)
    (hsplit : (run {} h).2 = pre ++ Ev.drvClose id r :: post) : ∀ e ∈ post, e.dev ≠ some id := by
  obtain ⟨b', h1⟩ := run_init h
  exact (after_close bounded_init (hsplit ▸ h1)).1

/-- the hypothesis is satisfiable with a non-empty tail: two life times in one history -/
example : (run {} [(.stoOpen, [0, Await, Ok]), (.stoClose, [Ok]), (.stoOpen, [0, Await, Ok]), (.stoSet true, [Armed])]).2 =
    [.drvOpen Ok (some (0, .storage, Await)), .drvDescribe 0 Ok, .wr 0 .driver 0] ++ storageVtableChecks 0 ++
      [.rd 0 (.fn .stop), .rd 0 .state, .wr 0 .state Closed, .rd 0 .driver] ++
    Ev.drvClose 0 Ok :: ([.drvOpen Ok (some (1, .storage, Await)), .drvDescribe 1 Ok, .wr 1 .driver 0] ++ storageVtableChecks 1 ++
      [.rd 1 (.fn .set), .call 1 .set Armed, .wr 1 .state Armed, .rd 1 .state]) := by decide

/-- the `state` of the device `driver_open_device` hands to the caller -/
theorem driverOpenDevice_state (nopen : Nat) (kind : Kind) (q : Q) :
    ((driverOpenDevice nopen kind q).1.map (·.state)).getD Closed =
      if q.getD 0 0 = 0 ∧ q.getD 2 0 = Ok then q.getD 1 0 else Closed := by
  simp only [driverOpenDevice, pop]
  rcases q with _ | ⟨v, _ | ⟨i, _ | ⟨r, t⟩⟩⟩ <;> simp <;> (repeat' split) <;> simp_all

/-- the state reported for the handle that `camera_open` / `storage_open` return -/
theorem reported_open (l : List Fn) (r : Option Dev × Nat × List Ev × Nat × Q) (n : Nat) :
    reported ⟨n, (openWith l r).1⟩ = (r.1.map (·.state)).getD Closed := by
  rcases r with ⟨_ | _, _, _, _, _⟩ <;> rfl

/-! what each HAL function leaves in the `state` field -/

theorem cameraStop_state (d : Dev) (q : Q) :
    (cameraStop d q).1.state =
      if d.state = Running then (if q.headD 0 = Ok then Armed else if q.headD 0 = Err then Await else d.state)
      else d.state := by
  by_cases hr : d.state = Running <;> by_cases h0 : q.headD 0 = Ok <;> by_cases h1 : q.headD 0 = Err <;>
    simp [cameraStop, pop, -List.headD_eq_head?_getD, *]

/-- the nested `camera_stop` does not matter: `Await` is stored after it -/
theorem cameraSet_state (d : Dev) (q : Q) :
    (cameraSet d true q).1.state =
      if q.headD 0 = Ok then (if d.state = Running then Running else Armed)
      else if q.headD 0 = Err then Await else d.state := by
  by_cases hr : d.state = Running <;> by_cases h0 : q.headD 0 = Ok <;> by_cases h1 : q.headD 0 = Err <;>
    simp [cameraSet, pop, -List.headD_eq_head?_getD, *]

theorem cameraGetter_dev (d : Dev) (f : Fn) (a : Bool) (q : Q) : (cameraGetter d f a q).1 = d := by
  cases a <;> rfl

theorem cameraStart_state (d : Dev) (q : Q) :
    (cameraStart d q).1.state = if q.headD 0 = Ok then Running else if q.headD 0 = Err then Await else d.state := by
  by_cases h0 : q.headD 0 = Ok <;> by_cases h1 : q.headD 0 = Err <;>
    simp [cameraStart, pop, -List.headD_eq_head?_getD, *]

theorem cameraExecuteTrigger_dev (d : Dev) (q : Q) : (cameraExecuteTrigger d q).1 = d := by
  unfold cameraExecuteTrigger
  split <;> rfl

theorem cameraGetFrame_state (d : Dev) (q : Q) :
    (cameraGetFrame d q).1.state = if d.state = Running ∧ q.headD 0 ≠ Ok then Await else d.state := by
  by_cases hr : d.state = Running <;> by_cases h0 : q.headD 0 = Ok <;>
    simp [cameraGetFrame, pop, -List.headD_eq_head?_getD, *]

theorem storageStop_state (d : Dev) (q : Q) :
    (storageStop d q).1.state = if d.state = Running then q.headD 0 else d.state := by
  by_cases hr : d.state = Running <;> by_cases h0 : q.headD 0 = Armed ∨ q.headD 0 = Await <;>
    simp [storageStop, pop, -List.headD_eq_head?_getD, *]

theorem storageStart_state (d : Dev) (q : Q) :
    (storageStart d q).1.state = if d.state = Armed then q.headD 0 else d.state := by
  by_cases hr : d.state = Armed <;> simp [storageStart, pop, -List.headD_eq_head?_getD, *]

theorem storageAppend_state (d : Dev) (k : Nat) (q : Q) :
    (storageAppend d k q).1.state = if d.state = Running ∧ k ≥ 2 then q.headD 0 else d.state := by
  by_cases hr : d.state = Running <;> by_cases h0 : k = 0 <;> by_cases h1 : k = 1 <;>
    simp [storageAppend, pop, -List.headD_eq_head?_getD, *]
  omega

/-- **The reported state follows from the driver's response.**  After every HAL call, the state the HAL
reports (`camera_get_state` / `storage_get_state`; Closed for a NULL handle) is the `table` function of
the kind of the handle, the state reported before, the call and the driver's answers — for every state,
every call and every answer. -/
theorem C11_state_follows_driver (s : HalState) (c : Call) (q : Q) :
    reported (step s c q).1 = table (s.dev.map (·.kind)) (reported s) c q := by
  obtain ⟨n, dev⟩ := s
  cases dev with
  | none =>
    cases c
    case camOpen => exact (reported_open _ (driverOpenDevice n .camera q) _).trans (driverOpenDevice_state n .camera q)
    case stoOpen => exact (reported_open _ (driverOpenDevice n .storage q) _).trans (driverOpenDevice_state n .storage q)
    all_goals rfl
  | some d =>
    obtain ⟨id, k, st⟩ := d
    -- `rfl` settles the rows that do not depend on the driver's answers: ill-formed calls (the wrong kind of handle,
    -- `open` on a live handle: nothing happens and the table keeps the state), `validate`, the storage getters, `close`
    cases k <;> cases c <;> try rfl
    case camSet a => cases a; rfl; exact cameraSet_state _ q
    case camGet a | camGetMeta a | camGetShape a => exact congrArg Dev.state (cameraGetter_dev _ _ a q)
    case camStart => exact cameraStart_state _ q
    case camStop => exact cameraStop_state _ q
    case camTrigger => exact congrArg Dev.state (cameraExecuteTrigger_dev _ q)
    case camGetFrame => exact cameraGetFrame_state _ q
    case stoSet a => cases a <;> rfl
    case stoStart => exact storageStart_state _ q
    case stoStop => exact storageStop_state _ q
    case stoAppend k => exact storageAppend_state _ k q

/-- no vtable call is made while opening a device -/
theorem openWith_no_call (l : List Fn) (nopen : Nat) (kind : Kind) (q : Q) (id : Nat) (f : Fn) (r : Nat) :
    Ev.call id f r ∉ (openWith l (driverOpenDevice nopen kind q)).2.2.1 := by
  simp only [driverOpenDevice, pop]
  rcases q with _ | ⟨v, _ | ⟨i, _ | ⟨r, t⟩⟩⟩ <;> simp <;> (repeat' split) <;> simp_all [openWith]

/-- the only vtable call of `camera_stop` is the `stop` it makes when the state is Running -/
theorem mem_cameraStop_call {d : Dev} {q : Q} {id : Nat} {f : Fn} {r : Nat} :
    Ev.call id f r ∈ (cameraStop d q).2.1 ↔ d.state = Running ∧ id = d.id ∧ f = .stop ∧ r = q.headD 0 := by
  by_cases hr : d.state = Running <;> by_cases h0 : q.headD 0 = Ok <;> by_cases h1 : q.headD 0 = Err <;>
    simp [cameraStop, pop, -List.headD_eq_head?_getD, *]

/-- **`get_frame`, `append` and `stop` reach the driver only from the Running state.**  Whenever one HAL call
on the caller's handle makes the driver see `stop`, `get_frame` or `append`, the call was made on a live handle
to that very device and the HAL state was Running when the call was entered (for `storage_validate`, which
works on a device of its own, the same is part of `C11_protocol_accepts`). -/
theorem C11_running_only_calls (s : HalState) (c : Call) (q : Q) (id : Nat) (f : Fn) (r : Nat)
    (hc : c ≠ .stoValidate) (hf : f = .stop ∨ f = .getFrame ∨ f = .append)
    (hmem : Ev.call id f r ∈ (step s c q).2.1) :
    ∃ d, s.dev = some d ∧ d.id = id ∧ d.state = Running := by
  obtain ⟨n, dev⟩ := s
  cases dev with
  | none =>
    exfalso
    cases c
    case stoValidate => exact hc rfl
    case camOpen => exact openWith_no_call _ n .camera q id f r hmem
    case stoOpen => exact openWith_no_call _ n .storage q id f r hmem
    all_goals cases hmem
  | some d =>
    obtain ⟨did, k, st⟩ := d
    refine ⟨_, rfl, ?_⟩
    -- every function's events, read off its definition; `camera_stop` inside `camera_set` / `camera_get_frame` by the lemma above
    unfold step at hmem
    cases k <;> cases c <;>
      simp [Call.wf, Call.isOpen, Call.kind, onDev, cameraSet, cameraGetter, cameraStart, mem_cameraStop_call,
        cameraExecuteTrigger, cameraGetFrame, cameraClose, storageSet, storageVoid, storageStart, storageStop, storageAppend,
        storageClose, driverCloseDevice, pop] at hmem hc <;>
      (repeat' split at hmem) <;> simp_all [mem_cameraStop_call]
    all_goals rcases hmem with h | h <;> simp_all

/-- the hypothesis is satisfiable: a failing `get_frame` makes the driver see `get_frame` and `stop` -/
example : Ev.call 7 .stop Ok ∈ (step ⟨8, some ⟨7, .camera, Running⟩⟩ .camGetFrame [Err, Ok]).2.1 := by decide

end AcqVerif.C11
