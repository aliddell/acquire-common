import AcqVerif.Runtime.Clean
import AcqVerif.Runtime.Data.StopReach
/-!
# C07 — abort and stop always return and leave a reusable runtime

Model: M1 (`AcqVerif.Runtime`). Safety half, for every scenario, client program and schedule: when `acquire_stop` or
`acquire_abort` returns, all worker threads of all streams have finished, every `is_running` flag is clear, cameras and
storages are stopped and the runtime is Armed; `acquire_stop` has joined exactly the threads it has passed; nothing can
be running while `runtime.state` is not Running outside start/abort/stop.

"returns after finitely many steps" is a liveness claim that needs scheduler fairness; it is decided on the real code by
the HANG / DEADLOCK / STEP-LIMIT oracle of the deterministic scheduler over the explored schedules (see DESIGN.md, C07),
together with C03's proved no-lost-wake-up and refusal lemmas for the channel the workers block on (partial).
-/
namespace AcqVerif.C07
open AcqVerif.Runtime

/-- the action with which `acquire_stop` (also at the end of `acquire_abort`) returns -/
def isStopReturn (a : Act RT) : Prop := a.name = "cl.stop.end"

theorem stop_return_shape : ∀ a ∈ clientActs, isStopReturn a → ∀ rt, (a.upd rt).state = .armed ∧ (a.upd rt).client.pc = .next := by
  refine client_all _ fun s a ha hn => ?_
  unfold isStopReturn at hn
  unfold clientFamilies clientPerStream clientBase clMon clCfg clStart clErr clStop clAcc clientFlush at ha
  each_action ha <;> simp at hn
  intro rt; exact ⟨rfl, rfl⟩

/-- (1) **When stop/abort returns, the runtime is Armed and everything is at rest**: in any reachable state in which
the returning action of `acquire_stop` is enabled, firing it gives state Armed, the client back at its next call, and
for every stream: workers finished, flags clear, camera and storage not Running. -/
theorem stop_returns_armed_and_clean (rt : RT) (h : MReach rt) (a : Act RT) (ha : a ∈ clientActs)
    (hn : isStopReturn a) (hg : a.guard rt = true) :
    (a.upd rt).state = .armed ∧ (a.upd rt).client.pc = .next ∧ ∀ s, Clean (getS (a.upd rt) s) := by
  obtain ⟨h1, h2⟩ := stop_return_shape a ha hn rt
  refine ⟨h1, h2, fun s => ?_⟩
  exact idle_is_clean _ (.client rt a h ha hg) (by rw [h2]; decide) (by rw [h1]; decide) s

/-- (2) `acquire_stop` has joined what it has passed: every stream below the one it is working on has no live worker,
and within the current stream the source / filter / sink are finished as soon as their join has returned. -/
theorem stop_has_joined (rt : RT) (h : MReach rt) (s : Nat) :
    (∀ k, stopBelow rt.client.pc = some k → s < k → AllDone (getS rt s)) ∧
    (1 ≤ stopStage rt.client.pc s → (getS rt s).src.pc = .done) ∧
    (2 ≤ stopStage rt.client.pc s → (getS rt s).flt.pc = .done) ∧
    (3 ≤ stopStage rt.client.pc s → (getS rt s).snk.pc = .done) :=
  let t := TInvAll.micro rt h s
  ⟨t.joined_below, t.joined_src, t.joined_flt, t.joined_snk⟩

/-- (3) a thread is only ever created over one that has finished (so a restart cannot leave an orphan worker
of the aborted acquisition behind) -/
theorem start_over_finished_threads (rt : RT) (h : MReach rt) (s : Nat) :
    (1 ≤ stage rt.client.pc s → stage rt.client.pc s ≤ 4 → (getS rt s).snk.pc = .done) ∧
    (1 ≤ stage rt.client.pc s → stage rt.client.pc s ≤ 5 → (getS rt s).flt.pc = .done) ∧
    (1 ≤ stage rt.client.pc s → stage rt.client.pc s ≤ 8 → (getS rt s).src.pc = .done) :=
  let t := TInvAll.micro rt h s
  ⟨t.start_snk, t.start_flt, t.start_src⟩

/-- (4) outside start/abort/stop: not Running ⇒ at rest (what a subsequent configure/start relies on) -/
theorem idle_runtime_is_clean (rt : RT) (h : MReach rt) (hq : quiet rt.client.pc = true) (hs : rt.state ≠ .running) (s : Nat) :
    Clean (getS rt s) :=
  idle_is_clean rt h hq hs s

/-- (5) **abort reaches a source that sleeps on a full ring** (no lost wake-up at pipeline level): a source decides to sleep
only while the channel accepts writes and holds the channel's lock until it is asleep; so whenever it is asleep on a channel
that refuses writes — after `acquire_abort` or the sink's error path — the one who refused has its `notify_all` still ahead
of it. (Client keeping the map/unmap rule.) -/
theorem refusal_wakes_a_sleeping_source (rt : RT) (h : MReach rt) (s : Nat) (hm : rt.client.misused = false) :
    ((getS rt s).src.pc = .wmapWait → (getS rt s).sinkCh.c.accepting = true) ∧
    ((getS rt s).src.pc = .wmapAsleep → (getS rt s).sinkCh.c.accepting = false →
      (getS rt s).snk.pc = .errAccNotify ∨ rt.client.pc = .accNotify s 1) :=
  ⟨(DWake.micro rt h s (Here.intro _) hm).held, (DWake.micro rt h s (Here.intro _) hm).refused_wakes⟩

/-- (6) **`acquire_stop` never waits for a sleeper that only a dead sink could wake**: while the client is inside
`acquire_stop` (which joins the source first) and the source of a configured stream is asleep on a full ring, either a
refusal's `notify_all` is still on its way (5), or the channel accepts writes and the stream's sink thread is alive and has
not passed the point of its error path where it refuses writes — so the reader that frees the ring is still running.
(The remaining way to stall — a client that keeps the *monitor* reader's region mapped — is the known finding of C07.) -/
theorem stop_never_waits_for_an_orphaned_sleeper (rt : RT) (h : MReach rt) (s : Nat) (hm : rt.client.misused = false) (hF : 0 < (getS rt s).F)
    (hv : (getS rt s).valid = true) (hc : (stopBelow rt.client.pc).isSome = true) (hs : (getS rt s).src.pc = .wmapAsleep) :
    ((getS rt s).snk.pc = .errAccNotify ∨ rt.client.pc = .accNotify s 1) ∨
    ((getS rt s).sinkCh.c.accepting = true ∧ (getS rt s).snk.pc ≠ .exit ∧ (getS rt s).snk.pc ≠ .done ∧
      snkErrLate (getS rt s).snk.pc = false) := by
  have w := DWake.micro rt h s (Here.intro _) hm
  have d := DStop.micro rt h s (Here.intro _) hm hF
  have hnd : (getS rt s).src.pc ≠ .done := by rw [hs]; simp
  cases hacc : (getS rt s).sinkCh.c.accepting with
  | false => exact .inl (w.refused_wakes hs hacc)
  | true =>
    refine .inr ⟨rfl, ?_⟩
    have hacc' : (AcqVerif.Channel.cv (getS rt s).sinkCh).acc = true := hacc
    have hnf : srcFin (getS rt s).src.pc = false := by rw [hs]; rfl
    -- a sink that ended normally means the source had left its loop, or a failed start — whose abort refused writes
    have hdr : (getS rt s).sto.drained = false := by
      cases hd : (getS rt s).sto.drained with
      | false => rfl
      | true =>
        rcases d.drained_fin hd with e | e
        · rw [hnf] at e; cases e
        · have := d.abort_refuses (.inr e) (pastAccFalse_of_stop hc) hv hnd
          rw [hacc'] at this; cases this
    have key := fun hx => d.err_refuses hx (.inl hnd)
    refine ⟨?_, ?_, ?_⟩
    · intro e; have := key (.inr ⟨.inl e, hdr⟩); rw [hacc'] at this; cases this
    · intro e; have := key (.inr ⟨.inr e, hdr⟩); rw [hacc'] at this; cases this
    · cases hl : snkErrLate (getS rt s).snk.pc with
      | false => rfl
      | true => have := key (.inl hl); rw [hacc'] at this; cases this

/-- non-vacuity: a scenario with an abort is an initial state the theorems start from -/
example : MReach (initRT 400 [some { F := 104, n := 1000 }, none] [.start, .sleep 7, .abort, .start, .stop]) := .init _ _ _

end AcqVerif.C07
