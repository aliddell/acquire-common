import AcqVerif.Storage.ShortWrites
/-!
# C14 — raw files contain exactly the appended frames, byte for byte

Model: `Storage/FileWrite.lean` (the retry loop of `file_write` in `linux/platform.c`),
`Storage/Raw.lean` (`raw.c`, with the repairs fixes/12 and fixes/13), `Storage/Hal.lean`
(`storage.c`), over the OS model `Storage/Os.lean`: a file system `path ↦ bytes`, a descriptor
table, and a fault oracle `Nat → Outcome` that decides for every `pwrite` whether it takes
everything, only `k` bytes, nothing, or fails.
-/
namespace AcqVerif.C14
open AcqVerif.Storage

/-- **`file_write` under any short-write pattern.**  `fd` refers to file `p`.  Whatever the oracle
    does: (1) if `file_write` reports success, `p` equals the old file with the *whole* buffer
    written at `offset`; (2) in any case — success or failure after any number of partial
    writes — no byte outside `[offset, offset + len)` changed, the file did not grow beyond
    `max(old length, offset + len)`, and no other file changed. -/
theorem fileWrite_ok (os : Os) (fd offset : Nat) (buf : Bytes) (p : Path) (hfd : os.fds.lookup fd = some p) :
    ((fileWrite os fd offset buf).2 = true → buf ≠ [] →
        (fileWrite os fd offset buf).1.content p = writeAt (os.content p) offset buf) ∧
    ((fileWrite os fd offset buf).2 = true → buf = [] → (fileWrite os fd offset buf).1.files = os.files) ∧
    (∀ i, (i < offset ∨ i ≥ offset + buf.length) →
        ((fileWrite os fd offset buf).1.content p).getD i 0 = (os.content p).getD i 0) ∧
    ((fileWrite os fd offset buf).1.content p).length ≤ max (os.content p).length (offset + buf.length) ∧
    (∀ q, q ≠ p → (fileWrite os fd offset buf).1.files q = os.files q) := by
  obtain ⟨k, hk, hok, hfiles⟩ := fileWrite_files os fd offset buf p hfd
  refine ⟨fileWrite_content os fd offset buf p hfd, fun h hb => ?_, ?_⟩
  · have hk' := hok h
    subst hb
    simp [hfiles, wrote, List.length_nil ▸ hk']
  · by_cases h0 : k = 0
    · have hsame : (fileWrite os fd offset buf).1.files = os.files := by simp [hfiles, wrote, h0]
      simp only [Os.content, hsame]
      exact ⟨fun _ _ => trivial, by omega, fun _ _ => trivial⟩
    · have hl : (buf.take k).length = k := by simp; omega
      have hc : (fileWrite os fd offset buf).1.content p = writeAt (os.content p) offset (buf.take k) := by
        simp [Os.content, hfiles, wrote, h0, setFile_same]
      refine ⟨fun i hi => ?_, by rw [hc, writeAt_length, hl]; omega,
        fun q hq => by simp [hfiles, wrote, h0, setFile_other _ _ _ _ hq]⟩
      rw [hc]
      cases hi with
      | inl h => exact writeAt_getD_lt _ _ _ _ h
      | inr h => exact writeAt_getD_ge _ _ _ _ (by omega)

example :  -- non-vacuity: a descriptor that refers to a file
    let os : Os := { oracle := fun _ => .short 1, pick := fun _ => 3, fds := [(3, [97])] }
    os.fds.lookup 3 = some [97] := by decide

/-- the path of the raw device's current URI (what `raw_start` hands to `open`) -/
def rawPath (s : Sys) : Path :=
  match s.dev with
  | .raw r => cstr r.uri
  | _ => []

/-- one acquisition of a raw device, from any state in which it is Armed on a path that does not
    exist, followed by any number of stops and closes: if the device is Running after the appends,
    the file is the concatenation of the packets -/
theorem contents_of_acquisition (s : Sys) (r : Raw) (hd : s.dev = .raw r) (hc : s.closed = false)
    (harm : r.state = .armed) (hfresh : s.os.files (cstr r.uri) = none) (pkts : List (List Frame)) (tail : List Op)
    (htail : ∀ op ∈ tail, op = .stop ∨ op = .close)
    (hrun : (runFrom s (.start :: pkts.map .append)).dev.state = .running) :
    (runFrom s (.start :: pkts.map .append ++ tail)).os.content (cstr r.uri) = (pkts.map packetBytes).flatten := by
  obtain ⟨_, r2, hd2, _, _, _, _, hcont⟩ := appends_inv pkts _ _ [] (start_fresh s r hd hc harm hfresh) hrun
  rw [runFrom_append, runFrom, Os.content, stops_keep_files tail _ r2 hd2 htail]
  simpa [Os.content] using hcont

/-- **Contents of the raw file.**  Take *any* history `pre` of set / start / append / stop cycles
    (and misuse) on one raw device, under any fault oracle and any descriptor choices.  Suppose the
    device is then Armed on a path that does not exist (an acquisition "to another path"), and
    the next `start` and all following appends succeed — i.e. the device is still Running after
    them; by `C16_failure_is_reported` that is the case exactly when no write failed, however
    many of them were short.  Then for every grouping `pkts` of frames into packets the file is,
    byte for byte, the concatenation of the packets — also after `stop` and/or `close`. -/
theorem C14_contents (oracle : Nat → Outcome) (pick : Nat → Fd) (pre : List Op) (pkts : List (List Frame))
    (tail : List Op) (htail : tail = [] ∨ tail = [.stop] ∨ tail = [.close] ∨ tail = [.stop, .close]) :
    let s := run .raw oracle pick pre
    s.closed = false → s.dev.state = .armed → s.os.files (rawPath s) = none →
    (runFrom s (.start :: pkts.map .append)).dev.state = .running →
    (runFrom s (.start :: pkts.map .append ++ tail)).os.content (rawPath s) = (pkts.map packetBytes).flatten := by
  intro s hc harm hfresh hrun
  obtain ⟨⟨r, hd⟩, _⟩ : (∃ r, s.dev = .raw r) ∧ _ := runFrom_raw _ pre {} rfl
  simp only [rawPath, hd] at hfresh ⊢
  exact contents_of_acquisition s r hd hc (by simpa [hd, Dev.state] using harm) hfresh pkts tail
    (by rcases htail with rfl | rfl | rfl | rfl <;> simp) hrun

/-- **Short writes never lose or reorder bytes.**  If the oracle lets every call succeed but cuts
    `pwrite`s short in any pattern whatsoever (to at least one byte each), then `start` succeeds,
    every append succeeds, and the file is the concatenation of the packets — no hypothesis about
    the outcome of the run is needed. -/
theorem C14_contents_short_writes (oracle : Nat → Outcome) (pick : Nat → Fd) (pre : List Op)
    (pkts : List (List Frame)) (tail : List Op)
    (htail : tail = [] ∨ tail = [.stop] ∨ tail = [.close] ∨ tail = [.stop, .close]) (hb : Benign oracle) :
    let s := run .raw oracle pick pre
    s.closed = false → s.dev.state = .armed → s.os.files (rawPath s) = none →
    (runFrom s (.start :: pkts.map .append ++ tail)).os.content (rawPath s) = (pkts.map packetBytes).flatten := by
  intro s hc harm hfresh
  refine C14_contents oracle pick pre pkts tail htail hc harm hfresh ?_
  obtain ⟨⟨r, hd⟩, horc⟩ : (∃ r, s.dev = .raw r) ∧ s.os.oracle = oracle := runFrom_raw _ pre {} rfl
  simp only [rawPath, hd] at hfresh
  exact running_of_benign s r hd hc (by simpa [hd, Dev.state] using harm) hfresh (horc ▸ hb) pkts

/-- non-vacuity of the hypotheses of `C14_contents` / `C14_contents_short_writes`: after `set "a"` on a
    fresh device (every pwrite cut to one byte) the device is open, Armed, and its path does not exist;
    so for *every* list of packets the file `a` ends up as their concatenation -/
example (pkts : List (List Frame)) :
    let s := run .raw (fun _ => .short 1) (fun _ => 3) [.set [97, 0] []]
    (runFrom s (.start :: pkts.map .append ++ [.stop, .close])).os.content [97] = (pkts.map packetBytes).flatten := by
  have hb : Benign (fun _ : Nat => Outcome.short 1) := fun _ => Or.inr ⟨1, by omega, rfl⟩
  have := C14_contents_short_writes (fun _ => .short 1) (fun _ => 3) [.set [97, 0] []] pkts [.stop, .close]
    (by simp) hb (by decide) (by decide) (by decide)
  exact this

/-- the packet boundaries do not matter: the concatenation of the packets is the concatenation of
    all frames, headers and pixels, back to back and in order -/
theorem C14_grouping (pkts : List (List Frame)) :
    (pkts.map packetBytes).flatten = (pkts.flatten.map (·.bytes)).flatten := by
  induction pkts with
  | nil => rfl
  | cons p t ih => simp [packetBytes, ih, List.flatten_append]

/-- **The URI.**  For a URI `u` without NUL bytes (stored NUL-terminated, `nbytes = |u| + 1`), in any
    state in which `set` is legal: if `storage_set` succeeds, the device stores exactly `u` minus an
    initial `file://`, NUL-terminated with the right length, and the next `start` passes exactly
    those bytes to `open`. -/
theorem C14_uri (s : Sys) (r : Raw) (u md : Bytes) (hd : s.dev = .raw r) (hu : ∀ b ∈ u, b ≠ 0)
    (hc : s.closed = false) (hi : r.state ≠ .running)
    (hok : (step s (.set (u ++ [0]) md)).2 = .ok) :
    (∃ r1, (step s (.set (u ++ [0]) md)).1.dev = .raw r1 ∧ r1.uri = stripScheme u ++ [0] ∧ r1.state = .armed) ∧
    ∃ res rest, (step (step s (.set (u ++ [0]) md)).1 .start).1.os.log =
      (step s (.set (u ++ [0]) md)).1.os.log ++ Ev.open (stripScheme u) res :: rest := by
  have e : step s (.set (u ++ [0]) md) = storageSet s (u ++ [0]) md := by simp [step, Op.wf, hc, hd, Dev.state, hi]
  rw [e] at hok ⊢
  unfold storageSet at hok ⊢
  simp only [hd, Dev.set, rawSet_terminated s.os r u hu] at hok ⊢
  cases hw : fileIsWritable s.os (stripScheme u) with
  | mk os1 ok =>
    cases ok with
    | false => simp [hw] at hok
    | true =>
      simp only [Dev.setState]
      refine ⟨⟨_, rfl, rfl, rfl⟩, ?_⟩
      rw [step_start (s := ⟨os1, _, s.closed⟩) hc, storageStart_raw rfl rfl]
      simp only [rawStart_os, cstr_append_zero _ (stripScheme_nonzero u hu)]
      exact fileCreate_log os1 (stripScheme u)

/-- non-vacuity of `C14_uri`: `file://a` on a fresh device -/
example : (step (Sys.init .raw (fun _ => .full) (fun _ => 3)) (.set (filePrefix ++ [97] ++ [0]) [])).2 = .ok ∧
    stripScheme (filePrefix ++ [97]) = [97] := by decide

end AcqVerif.C14
