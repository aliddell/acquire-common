import AcqVerif.Tiff.DeviceLemmas
import AcqVerif.Tiff.Ties
import AcqVerif.Tiff.DescLemmas
/-!
# C15 — TIFF writers produce valid BigTIFF files that round-trip every frame

Objects (all defined in `AcqVerif/Tiff/`):
* `Tiff`, `Sxs`, `Device`, `storageSet/Start/Append/Stop` — transcription of `tiff.cpp`,
  `side-by-side-tiff.cpp` (repaired: fixes/15, /16, /19) and of the HAL wrappers;
  `Device.acquire d p packets` = set, start, one append per packet, stop, on a device in ANY state `d`.
* `tiffFile old cfg frames` — the bytes of the file after one acquisition (`old` = what the path held before;
  `file_create` does not truncate), `Files` — path ↦ bytes.
* `TiffRead.readTiff` — an independent bounds-checked BigTIFF reader (header magic / version / offset size,
  `first_ifd`, the `next` links with fuel, tag decoding by TIFF field type).
* `expectedPages cfg frames` — page `i` carries frame `i`'s width, height, bits per sample, sample format,
  strip bytes and the description text `descOf cfg i frame`.

Hypotheses that appear: `frames ≠ []` (N ≥ 1), `Frame.WF` (`uint32_t` width/height, a valid `SampleType`),
and `endOff … < 2^64` (the file is smaller than 2^64 bytes, so offsets fit their 8-byte fields).
-/
namespace AcqVerif.C15
open AcqVerif.Tiff AcqVerif.TiffRead

/-! ## concrete, non-trivial inputs used by the non-vacuity examples -/

def f0 : Frame := { width := 3, height := 2, type := 1, frameId := 7, hwFrameId := 2 ^ 64 - 1, tsHardware := 12345,
                    tsAcq := 10 ^ 19, data := List.replicate 16 0xab }
def f1 : Frame := { width := 1, height := 5, type := 4, frameId := 8, hwFrameId := 0, tsHardware := 0, tsAcq := 1,
                    data := List.replicate 24 0x01 }
/-- metadata `{"a":1}`, pixel scales 2.5 and 0.5 -/
def cfg0 : Cfg := { metadata := [123, 34, 97, 34, 58, 49, 125], scaleMilliX := 2500, scaleMilliY := 500 }
/-- uri `file://x.tif` -/
def p0 : Props := { uri := sFileScheme ++ [120, 46, 116, 105, 102], metadata := some cfg0.metadata, scaleMilliX := 2500,
                    scaleMilliY := 500 }
/-- a writer left in an arbitrary state by earlier use -/
def tDirty : Tiff := { state := .armed, filename := [1], externalMetadata := [123, 34, 122, 34, 58, 48, 125], scaleMilliX := 7,
                       scaleMilliY := 0, file := [2], lastOffset := 999, lastIfdNextOffset := 5000, frameCount := 9,
                       strings := { offset := 77, size := 3, data := [1, 2, 3] } }
def sDirty : Sxs := { state := .armed, tiff := tDirty, uri := [9], metadata := [123, 125], scaleMilliX := 1, scaleMilliY := 2 }
def wOld : Files := [([120, 46, 116, 105, 102], List.replicate 2000 0xee)]

theorem frames01_wf : ∀ f ∈ [f0, f1], f.WF := by
  intro f hf; simp at hf; rcases hf with rfl | rfl <;> exact ⟨by decide, by decide, by decide⟩

theorem frames01_size : endOff cfg0 K.sizeofHeader 0 [f0, f1] < 2 ^ 64 := by decide +kernel

/-! ## (3) round trip -/

/-- The reader, applied to the file of an acquisition of `N ≥ 1` frames (whatever the path held before,
whatever the shapes, sample types, metadata and pixel scales), returns exactly the expected pages. -/
theorem C15_roundtrip (old : Tiff.Bytes) (cfg : Cfg) (frames : List Frame) (hne : frames ≠ [])
    (hw : ∀ f ∈ frames, f.WF) (h64 : endOff cfg K.sizeofHeader 0 frames < 2 ^ 64) :
    readTiff (tiffFile old cfg frames) = some (expectedPages cfg frames) :=
  readTiff_tiffFile old cfg frames hne hw h64

example : readTiff (tiffFile [9, 9, 9] cfg0 [f0, f1]) = some (expectedPages cfg0 [f0, f1]) :=
  C15_roundtrip _ cfg0 [f0, f1] (by simp) frames01_wf frames01_size

theorem pagesFrom_getElem? (cfg : Cfg) (last idx : Nat) (frames : List Frame) (i : Nat) (h : i < frames.length) :
    ∃ L nxt, (pagesFrom cfg last idx frames)[i]? = some (pageOf cfg (idx + i) frames[i] L nxt) := by
  induction frames generalizing last idx i with
  | nil => simp at h
  | cons f rest ih =>
    cases i with
    | zero => exact ⟨_, _, rfl⟩
    | succ j =>
      obtain ⟨L, nxt, hj⟩ := ih (frameLayout cfg last idx f).next (idx + 1) j (by simpa using h)
      rw [Nat.add_right_comm] at hj
      exact ⟨L, nxt, hj⟩

theorem pagesFrom_length (cfg : Cfg) (last idx : Nat) (frames : List Frame) :
    (pagesFrom cfg last idx frames).length = frames.length := by
  induction frames generalizing last idx with
  | nil => rfl
  | cons f rest ih => simp [pagesFrom, ih]

/-- What the pages say, in the words of the property: there are exactly `N` of them and the `i`-th gives the
`i`-th frame's width, height, bits per sample (8 × bytes of the sample type) and sample format (1 unsigned,
2 signed, 3 float), a strip that is the frame's bytes unchanged — so its first `imageBytes` bytes are the
pixels, whatever alignment padding follows them — and the description the writer composed for that frame. -/
theorem C15_pages (cfg : Cfg) (frames : List Frame) :
    (expectedPages cfg frames).length = frames.length ∧
    ∀ i (h : i < frames.length), ∃ pg, (expectedPages cfg frames)[i]? = some pg ∧
      pg.width = frames[i].width ∧ pg.height = frames[i].height ∧
      pg.bitsPerSample = 8 * bytesOfType frames[i].type ∧ pg.sampleFormat = sampleFormatCode frames[i].type ∧
      pg.stripByteCount = frames[i].data.length ∧ pg.strip = frames[i].data ∧
      (∀ pixels pad, frames[i].data = pixels ++ pad → pg.strip.take pixels.length = pixels) ∧
      pg.description = descOf cfg i frames[i] ++ [0] := by
  refine ⟨pagesFrom_length _ _ _ _, ?_⟩
  intro i h
  obtain ⟨L, nxt, hp⟩ := pagesFrom_getElem? cfg K.sizeofHeader 0 frames i h
  refine ⟨_, hp, rfl, rfl, rfl, rfl, rfl, rfl, ?_, ?_⟩
  · intro pixels pad hd
    simp [pageOf, hd]
  · simp [pageOf]

example : ∃ pg, (expectedPages cfg0 [f0, f1])[1]? = some pg ∧ pg.width = 1 ∧ pg.height = 5 ∧ pg.bitsPerSample = 32 ∧
    pg.sampleFormat = 3 ∧ pg.strip = f1.data := by
  obtain ⟨pg, h1, h2, h3, h4, h5, _, h7, _⟩ := (C15_pages cfg0 [f0, f1]).2 1 (by decide)
  exact ⟨pg, h1, h2, h3, h4, h5, h7⟩

/-- The description of frame `i`: JSON text with that frame's ids and timestamps in decimal; the user's
metadata is embedded on the first page only (and only if there is any). -/
theorem C15_description (cfg : Cfg) (i : Nat) (f : Frame) :
    descOf cfg i f =
      if i = 0 ∧ cfg.metadata ≠ [] then
        sFrameId ++ dec f.frameId ++ sHwFrameId ++ dec f.hwFrameId ++ sTsRuntime ++ dec f.tsAcq ++ sTsHardware ++
          dec f.tsHardware ++ sMetadata ++ cfg.metadata ++ sEndMeta
      else
        sFrameId ++ dec f.frameId ++ sHwFrameId ++ dec f.hwFrameId ++ sTsRuntime ++ dec f.tsAcq ++ sTsHardware ++
          dec f.tsHardware ++ sEndPlain :=
  descOf_eq cfg i f

example : descOf cfg0 0 f0 ≠ descOf cfg0 1 f0 := by
  -- the scanner finds the metadata in the first and none in the second
  intro h
  have := congrArg parseDescription h
  rw [parse_descOf, parse_descOf] at this
  exact absurd this (by decide)

/-- Semantically: an independent scanner of the JSON text (`TiffRead.parseDescription`: literal keys, numbers as
runs of decimal digits) applied to the description of page `i` (without its terminating NUL) returns frame `i`'s
`frame_id`, `hardware_frame_id`, `timestamps.runtime`, `timestamps.hardware`, and as `metadata` exactly the user's
metadata on page 0 — no `metadata` key on any other page, nor when the user gave none. -/
theorem C15_description_parses (cfg : Cfg) (frames : List Frame) (i : Nat) (h : i < frames.length) :
    ∃ pg, (expectedPages cfg frames)[i]? = some pg ∧ pg.description.getLast? = some 0 ∧
      parseDescription pg.description.dropLast =
        some ⟨frames[i].frameId, frames[i].hwFrameId, frames[i].tsAcq, frames[i].tsHardware,
              if i = 0 ∧ cfg.metadata ≠ [] then some cfg.metadata else none⟩ := by
  obtain ⟨L, nxt, hp⟩ := pagesFrom_getElem? cfg K.sizeofHeader 0 frames i h
  refine ⟨_, hp, by simp [pageOf], ?_⟩
  have := parse_descOf cfg (0 + i) frames[i]
  simpa [pageOf] using this

example : ∃ pg, (expectedPages cfg0 [f0, f1])[0]? = some pg ∧
    parseDescription pg.description.dropLast = some ⟨7, 2 ^ 64 - 1, 10 ^ 19, 12345, some cfg0.metadata⟩ := by
  obtain ⟨pg, h1, _, h3⟩ := C15_description_parses cfg0 [f0, f1] 0 (by decide)
  exact ⟨pg, h1, h3⟩

/-! ## (2) the chain -/

/-- the pages form a chain starting at `off`: each directory sits where the previous link points, no link
before the end is zero, and the last link is zero -/
def ChainOk : Nat → List Page → Prop
  | off, [] => off = 0
  | off, p :: rest => off ≠ 0 ∧ p.ifdOffset = off ∧ ChainOk p.next rest

theorem chainOk_pagesFrom (cfg : Cfg) (last idx : Nat) (frames : List Frame) (hl : 0 < last) :
    ChainOk (chainStart last frames) (pagesFrom cfg last idx frames) := by
  induction frames generalizing last idx with
  | nil => rfl
  | cons f rest ih =>
    have ho := frameLayout_order cfg last idx f
    have := ih (frameLayout cfg last idx f).next (idx + 1) (by omega)
    rw [chainStart_next] at this
    exact ⟨show (frameLayout cfg last idx f).ifdOff ≠ 0 by omega, rfl, this⟩

/-- Following `first_ifd` and the `next` links in the file visits exactly `N` directories and ends in a
zero link (the reader fails on a dangling or cyclic chain, so `some` already says the chain is sound). -/
theorem C15_chain (old : Tiff.Bytes) (cfg : Cfg) (frames : List Frame) (hne : frames ≠ [])
    (hw : ∀ f ∈ frames, f.WF) (h64 : endOff cfg K.sizeofHeader 0 frames < 2 ^ 64) :
    ∃ pages, readTiff (tiffFile old cfg frames) = some pages ∧ pages.length = frames.length ∧
      readHeader (tiffFile old cfg frames) = some 16 ∧ ChainOk 16 pages := by
  refine ⟨_, C15_roundtrip old cfg frames hne hw h64, pagesFrom_length _ _ _ _,
    readHeader_of_holds (tiffFile_holds old cfg frames hne).1, ?_⟩
  have := chainOk_pagesFrom cfg K.sizeofHeader 0 frames (by decide)
  rwa [chainStart_of_ne hne] at this

example : ∃ pages, readTiff (tiffFile [] cfg0 [f0, f1]) = some pages ∧ pages.length = 2 ∧
    readHeader (tiffFile [] cfg0 [f0, f1]) = some 16 ∧ ChainOk 16 pages :=
  C15_chain [] cfg0 [f0, f1] (by simp) frames01_wf frames01_size

/-! ## (1) layout -/

/-- the regions `(offset, length)` come in increasing order without overlap — each starts at or after the
end of the previous one, the first at or after `lo` — and every one ends inside `[0, hi]` -/
def Within : Nat → Nat → List (Nat × Nat) → Prop
  | _, _, [] => True
  | lo, hi, r :: rest => lo ≤ r.1 ∧ r.1 + r.2 ≤ hi ∧ Within (r.1 + r.2) hi rest

theorem within_mono {a b hi : Nat} {rs : List (Nat × Nat)} (h : a ≤ b) (hw : Within b hi rs) : Within a hi rs := by
  cases rs with
  | nil => trivial
  | cons r rest => exact ⟨Nat.le_trans h hw.1, hw.2⟩

theorem within_pagesFrom {F : Tiff.Bytes} (cfg : Cfg) (fin last idx : Nat) (frames : List Frame)
    (h : FramesIn F cfg fin last idx frames) :
    Within last F.length ((pagesFrom cfg last idx frames).map Page.regions).flatten := by
  induction frames generalizing last idx with
  | nil => trivial
  | cons f rest ih =>
    have ho := frameLayout_order cfg last idx f
    have hk : K.sizeofIfd = 336 := rfl
    obtain ⟨_, _, _, hstr, hrest⟩ := h
    have hsb := hstr.bound_snoc
    have := ih (frameLayout cfg last idx f).next (idx + 1) hrest
    simp only [pagesFrom, List.map_cons, List.flatten_cons, Page.regions, pageOf, Bool.false_eq_true, if_false,
      List.cons_append, List.nil_append, Within, K.ntags]
    exact ⟨ho.1, by omega, by omega, by omega, by omega, by omega, within_mono (by omega) this⟩

/-- Header, every directory, every strip and every string section, as the reader located them, lie inside
the file and are pairwise disjoint: their offsets strictly increase, each structure starting at or after
the end of the previous one. -/
theorem C15_layout_disjoint_in_file (old : Tiff.Bytes) (cfg : Cfg) (frames : List Frame) (hne : frames ≠ [])
    (hw : ∀ f ∈ frames, f.WF) (h64 : endOff cfg K.sizeofHeader 0 frames < 2 ^ 64) :
    ∃ pages, readTiff (tiffFile old cfg frames) = some pages ∧
      Within 0 (tiffFile old cfg frames).length (regions pages) := by
  obtain ⟨hh, hf⟩ := tiffFile_holds old cfg frames hne
  exact ⟨_, C15_roundtrip old cfg frames hne hw h64, Nat.le_refl _, hh.bound (by decide),
    within_pagesFrom cfg 0 K.sizeofHeader 0 frames hf⟩

example : ∃ pages, readTiff (tiffFile [] cfg0 [f0, f1]) = some pages ∧
    Within 0 (tiffFile [] cfg0 [f0, f1]).length (regions pages) :=
  C15_layout_disjoint_in_file [] cfg0 [f0, f1] (by simp) frames01_wf frames01_size

/-! ## (4) packets, repeated acquisitions, both devices -/

/-- Only the sequence of frames matters, not how the sink grouped them into `append` packets (empty
packets included). -/
theorem C15_packet_grouping (t : Tiff) (packets packets' : List (List Frame)) (h : packets.flatten = packets'.flatten) :
    t.appendPackets packets = t.appendPackets packets' := by
  rw [appendPackets_eq, appendPackets_eq, h]

example : tDirty.appendPackets [[f0], [], [f1]] = tDirty.appendPackets [[f0, f1]] :=
  C15_packet_grouping tDirty _ _ rfl

/-- **`tiff`**: set, start, any packets, stop on a device in ANY prior state `t` (whatever earlier
acquisitions left in its fields) and ANY prior content of the file system.  The file at the configured
path is `tiffFile` of (what the path held, the new configuration, the frames) — nothing else of the device's
past enters — and the reader recovers every frame from it; the device is `Armed` again. -/
theorem C15_tiff_device (t : Tiff) (w : Files) (p : Props) (packets : List (List Frame))
    (hm : metaOk p.metadata) (hne : packets.flatten ≠ []) (hw : ∀ f ∈ packets.flatten, f.WF)
    (h64 : endOff (cfgOf p) K.sizeofHeader 0 packets.flatten < 2 ^ 64) :
    (w.applyAll (Device.acquire (.tiff t) p packets).2).get (pathOfUri p.uri) =
        some (tiffFile ((w.get (pathOfUri p.uri)).getD []) (cfgOf p) packets.flatten) ∧
      readTiff (tiffFile ((w.get (pathOfUri p.uri)).getD []) (cfgOf p) packets.flatten) =
        some (expectedPages (cfgOf p) packets.flatten) ∧
      (Device.acquire (.tiff t) p packets).1.state = .armed := by
  obtain ⟨he, hs⟩ := acquire_spec t p packets hm hne
  rw [acquire_tiff t p packets hm]
  refine ⟨?_, C15_roundtrip _ _ _ hne hw h64, hs⟩
  simp only [he]
  exact Files.acquire_file w (pathOfUri p.uri) _

example : (wOld.applyAll (Device.acquire (.tiff tDirty) p0 [[f0], [], [f1]]).2).get (pathOfUri p0.uri) =
      some (tiffFile ((wOld.get (pathOfUri p0.uri)).getD []) (cfgOf p0) [f0, f1]) ∧
    readTiff (tiffFile ((wOld.get (pathOfUri p0.uri)).getD []) (cfgOf p0) [f0, f1]) = some (expectedPages (cfgOf p0) [f0, f1]) ∧
    (Device.acquire (.tiff tDirty) p0 [[f0], [], [f1]]).1.state = .armed :=
  C15_tiff_device tDirty wOld p0 [[f0], [], [f1]] (Or.inr (by decide)) (by simp) frames01_wf frames01_size

theorem prologue_meta (w : Files) (p : Props) :
    (w.applyAll (sxsPrologue p)).get (pathOfUri p.uri ++ sMetadataJson) = some (p.metadata.getD []) := by
  simp [sxsPrologue, Files.applyAll, Files.get_apply, pwrite_nil_zero]

theorem prologue_other (w : Files) (p : Props) (q : Tiff.Bytes) (h : q ≠ pathOfUri p.uri ++ sMetadataJson) :
    (w.applyAll (sxsPrologue p)).get q = w.get q := by
  simp [sxsPrologue, Files.applyAll, Files.get_apply, h]

theorem dataPath_ne_metaPath (path : Tiff.Bytes) : pathOfUri (path ++ sDataTif) ≠ path ++ sMetadataJson := by
  intro h
  have h1 := pathOfUri_length_le (path ++ sDataTif)
  rw [h] at h1
  simp [sDataTif, sMetadataJson] at h1

/-- **`tiff-json`**: the same for the composite device in ANY prior state `s` (including whatever state its
inner writer was left in).  `<folder>/data.tif` is `tiffFile` of the frames and round-trips;
`<folder>/metadata.json` holds exactly the user's metadata; the device is `Armed` again. -/
theorem C15_tiff_json_device (s : Sxs) (w : Files) (p : Props) (packets : List (List Frame))
    (hm : sxsMetaOk p.metadata) (hne : packets.flatten ≠ []) (hw : ∀ f ∈ packets.flatten, f.WF)
    (h64 : endOff (cfgOf p) K.sizeofHeader 0 packets.flatten < 2 ^ 64) :
    let dataPath := pathOfUri (pathOfUri p.uri ++ sDataTif)
    let metaPath := pathOfUri p.uri ++ sMetadataJson
    let w' := w.applyAll (Device.acquire (.sxs s) p packets).2
    w'.get dataPath = some (tiffFile ((w.get dataPath).getD []) (cfgOf p) packets.flatten) ∧
      readTiff (tiffFile ((w.get dataPath).getD []) (cfgOf p) packets.flatten) =
        some (expectedPages (cfgOf p) packets.flatten) ∧
      w'.get metaPath = some (metaOf p.metadata) ∧
      (Device.acquire (.sxs s) p packets).1.state = .armed := by
  intro dataPath metaPath w'
  have hin := innerProps_metaOk p hm
  obtain ⟨he, hs⟩ := acquire_sxs s p packets hm
  obtain ⟨hi, _⟩ := acquire_spec s.tiff (innerProps p) packets hin hne
  have hne' : dataPath ≠ metaPath := dataPath_ne_metaPath _
  have hw' : w' = (w.applyAll (sxsPrologue p)).applyAll (s.tiff.acquire (innerProps p) packets).2 := by
    simp only [w', he, Files.applyAll_append]
  have hdp : pathOfUri (innerProps p).uri = dataPath := rfl
  refine ⟨?_, C15_roundtrip _ _ _ hne hw h64, ?_, hs⟩
  · rw [hw', hi, hdp, cfgOf_innerProps, Files.acquire_file, prologue_other w p dataPath hne']
    rfl
  · rw [hw', hi, hdp, Files.acquire_other _ _ _ _ (Ne.symm hne'), prologue_meta]
    rfl

example : ((wOld.applyAll (Device.acquire (.sxs sDirty) p0 [[f0, f1]]).2).get (pathOfUri p0.uri ++ sMetadataJson)) =
    some cfg0.metadata :=
  (C15_tiff_json_device sDirty wOld p0 [[f0, f1]] (by unfold sxsMetaOk; decide) (by simp) frames01_wf frames01_size).2.2.1

end AcqVerif.C15
