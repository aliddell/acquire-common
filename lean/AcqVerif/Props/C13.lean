import AcqVerif.SProps.Run
/-!
# C13 — StorageProperties copies are deep, complete and independent

The theorems are about `AcqVerif.SProps` (`lean/AcqVerif/SProps/Model.lean`), the transcription of
`props/storage.c` with the repairs of `fixes/11-*.patch`.  They quantify over

* every pool size `n` and **every script** `ops : List Op` of `init`, `set_uri`,
  `set_external_metadata`, `set_access_key_and_secret`, `set_dimension`, `set_enable_multiscale`,
  `copy` (any two different objects, either direction, repeatedly), `destroy` — plus the direct calls
  `dimensions_init` / `dimensions_destroy` and the caller storing a borrowed (`is_ref = 1`) string —
  run from zero-initialised objects (`reach n ops`; operations violating the usage rules `Op.wf` are
  skipped, exactly as the harness skips them);
* arbitrary argument strings: `NULL`, empty, unterminated, with embedded NULs, of any length
  (`InStr`), any index, kind and sizes, 0..255 dimensions.
-/
namespace AcqVerif.C13
open AcqVerif.SProps

/-- the state after running script `ops` on `n` zero-initialised objects -/
def reach (n : Nat) (ops : List Op) : State := run (State.init n) ops

theorem reach_inv (n : Nat) (ops : List Op) : Inv (reach n ops) := (run_inv ops _ (init_inv n)).1

/-- what `storage_properties_copy` does in any state that satisfies the invariant -/
theorem copy_equal_of_inv {s : State} (inv : Inv s) (d c : Nat) (wf : (Op.copy d c).wf s = true) :
    (step s (.copy d c)).2 = 1 ∧
    objView (step s (.copy d c)).1.h ((step s (.copy d c)).1.obj d) = objView s.h (s.obj c) ∧
    (step s (.copy d c)).1.obj c = s.obj c ∧
    objView (step s (.copy d c)).1.h (s.obj c) = objView s.h (s.obj c) ∧
    (∀ k, 0 < objCount s.h (s.obj c) k → (step s (.copy d c)).1.h.cells k = s.h.cells k) := by
  simp only [Op.wf, Bool.and_eq_true, decide_eq_true_eq] at wf
  obtain ⟨⟨hd, hc⟩, hne⟩ := wf
  obtain ⟨rc, st, view⟩ := copy_spec inv.hok (inv.ok _ hd) (inv.owns hd) (inv.sep hd hc hne)
  obtain ⟨_, oth⟩ := inv.put hd st
  obtain ⟨e1, e2, e3⟩ := oth c (fun e => hne e.symm) hc
  have es : (step s (.copy d c)).1 = s.put d ((copy s.h (s.obj d) (s.obj c)).1, (copy s.h (s.obj d) (s.obj c)).2.1) := rfl
  have er : (step s (.copy d c)).2 = b2n (copy s.h (s.obj d) (s.obj c)).2.2 := rfl
  rw [es, er, rc, put_obj_self _ _ _ hd]
  exact ⟨rfl, view, e1, e3, e2⟩

/-- **Copy makes the destination equal to the source in every field, and leaves the source untouched.**
After any script, `storage_properties_copy(dst, src)` on two different objects returns 1; afterwards
`dst` equals what `src` was, field by field (strings by content with `NULL ≡ ""`, pixel scale, first
frame id, multiscale flag, the number of dimensions and every dimension's name, kind and sizes); the
`src` struct is bit-for-bit what it was and so is everything it points to. -/
theorem C13_copy_equal (n : Nat) (ops : List Op) (d c : Nat) (wf : (Op.copy d c).wf (reach n ops) = true) :
    (step (reach n ops) (.copy d c)).2 = 1 ∧
    objView (step (reach n ops) (.copy d c)).1.h ((step (reach n ops) (.copy d c)).1.obj d)
      = objView (reach n ops).h ((reach n ops).obj c) ∧
    (step (reach n ops) (.copy d c)).1.obj c = (reach n ops).obj c ∧
    objView (step (reach n ops) (.copy d c)).1.h ((reach n ops).obj c) = objView (reach n ops).h ((reach n ops).obj c) ∧
    (∀ k, 0 < objCount (reach n ops).h ((reach n ops).obj c) k →
      (step (reach n ops) (.copy d c)).1.h.cells k = (reach n ops).h.cells k) :=
  copy_equal_of_inv (reach_inv n ops) d c wf

/-- a script whose source has two named dimensions, credentials and a long URI, copied over an
object that already owns strings and a dimension: the hypothesis of `C13_copy_equal` holds -/
def demo : List Op :=
  [ .init 0 7 ⟨some [111, 117, 116, 0], 4⟩ ⟨some [123, 125], 2⟩ 1 2 2,
    .setDim 0 0 ⟨some [120, 0], 2⟩ 0 64 32 1,
    .setDim 0 1 ⟨some [116, 116], 2⟩ 2 0 1 0,
    .setKeys 0 ⟨some [107, 0], 2⟩ ⟨none, 0⟩,
    .init 1 0 ⟨none, 0⟩ ⟨none, 5⟩ 0 0 1,
    .setDim 1 0 ⟨some [122, 0], 2⟩ 1 1 1 1 ]

set_option maxRecDepth 100000 in
example : (Op.copy 1 0).wf (reach 3 demo) = true := by decide
set_option maxRecDepth 100000 in
example : ((reach 3 demo).obj 0).dimsSize = 2 ∧ ((reach 3 demo).obj 1).dimsSize = 1 := by decide
set_option maxRecDepth 100000 in
example : (step (reach 3 demo) (.copy 1 0)).2 = 1 := by decide

/-- what the invariant says about sharing, in any state that satisfies it -/
theorem independent_of_inv {s : State} (inv : Inv s) :
    (∀ k, ownSum s k = if s.h.live k = true then 1 else 0) ∧
    (∀ i j k, i < s.objs.length → j < s.objs.length → i ≠ j →
      0 < objCount s.h (s.obj i) k → objCount s.h (s.obj j) k = 0) ∧
    (∀ op : Op, op.wf s = true → ∀ j, j ≠ op.target → j < s.objs.length →
      (step s op).1.obj j = s.obj j ∧
      (∀ k, 0 < objCount s.h (s.obj j) k → (step s op).1.h.cells k = s.h.cells k) ∧
      objView (step s op).1.h (s.obj j) = objView s.h (s.obj j)) := by
  refine ⟨?_, ?_, ?_⟩
  · intro k
    rw [inv.own k]
    cases s.h.live k <;> rfl
  · intro i j k hi hj hij hk
    exact ((inv.sep hj hi (fun e => hij e.symm)).disj k hk).2
  · intro op wf j hj hlt
    obtain ⟨hi, h', o', e, st⟩ := step_is_put inv op wf
    rw [e]
    exact (inv.put hi st).2 j hj hlt

/-- **Ownership is a forest: copies share nothing, and an object only changes when it is the target.**
After any script: (1) every live block is owned by exactly one field of exactly one object and a
released block by none; (2) hence two different objects never own the same block; (3) any further
operation leaves every object other than its target unchanged — the struct itself, every block it
owns, and therefore its content. -/
theorem C13_independent (n : Nat) (ops : List Op) :
    (∀ k, ownSum (reach n ops) k = if (reach n ops).h.live k = true then 1 else 0) ∧
    (∀ i j k, i < (reach n ops).objs.length → j < (reach n ops).objs.length → i ≠ j →
      0 < objCount (reach n ops).h ((reach n ops).obj i) k → objCount (reach n ops).h ((reach n ops).obj j) k = 0) ∧
    (∀ op : Op, op.wf (reach n ops) = true → ∀ j, j ≠ op.target → j < (reach n ops).objs.length →
      (step (reach n ops) op).1.obj j = (reach n ops).obj j ∧
      (∀ k, 0 < objCount (reach n ops).h ((reach n ops).obj j) k →
        (step (reach n ops) op).1.h.cells k = (reach n ops).h.cells k) ∧
      objView (step (reach n ops) op).1.h ((reach n ops).obj j) = objView (reach n ops).h ((reach n ops).obj j)) :=
  independent_of_inv (reach_inv n ops)

set_option maxRecDepth 100000 in
example : (reach 3 demo).h.live 5 = true ∧ 0 < objCount (reach 3 demo).h ((reach 3 demo).obj 0) 5 := by decide
set_option maxRecDepth 100000 in
example : (Op.setDim 0 1 ⟨some [121, 0], 2⟩ 1 2 3 4).wf (reach 3 demo) = true := by decide

/-- what the invariant says about the allocator log, before and after destroying every object -/
theorem clean_log_of_inv {s : State} (inv : Inv s) :
    (∀ e ∈ s.h.log, e.bad = false) ∧
    (∀ id, s.h.log.countP (Event.isFree id) ≤ s.h.log.countP (Event.isAlloc id) ∧
           s.h.log.countP (Event.isAlloc id) ≤ 1) ∧
    (∀ e ∈ (destroyAll s).h.log, e.bad = false) ∧
    (∀ id, (destroyAll s).h.live id = false) ∧
    (∀ id, (destroyAll s).h.log.countP (Event.isFree id) = (destroyAll s).h.log.countP (Event.isAlloc id) ∧
           (destroyAll s).h.log.countP (Event.isAlloc id) = if id < (destroyAll s).h.next then 1 else 0) := by
  obtain ⟨inv', dead⟩ := destroyAll_spec inv
  generalize destroyAll s = s' at *
  refine ⟨inv.hok.clean, ?_, inv'.hok.clean, dead, ?_⟩
  · intro id
    rw [inv.hok.frees id, inv.hok.allocs id]
    cases Nat.blt id s.h.next <;> cases (s.h.cells id).freed <;> simp [b2n]
  · -- a block that was handed out and is not live has been released
    intro id
    rw [inv'.hok.frees id, inv'.hok.allocs id]
    have hd := dead id
    simp only [Heap.live] at hd
    cases h1 : Nat.blt id s'.h.next <;> cases h2 : (s'.h.cells id).freed <;>
      simp_all [b2n, Nat.blt_eq, ← Bool.not_eq_true]

/-- **No use after free, no double free, no leak.**  After any script the event log of the heap
contains only `alloc` and `free` events (no access to a released block, no second `free`, no `free`
or write through `NULL`/caller memory, no access beyond a block), every block has been allocated
once and released at most once; and once every object has been destroyed no block is live, the log
is still clean, and every block that was ever allocated has been released exactly once. -/
theorem C13_no_uaf_no_double_free_no_leak (n : Nat) (ops : List Op) :
    (∀ e ∈ (reach n ops).h.log, e.bad = false) ∧
    (∀ id, (reach n ops).h.log.countP (Event.isFree id) ≤ (reach n ops).h.log.countP (Event.isAlloc id) ∧
           (reach n ops).h.log.countP (Event.isAlloc id) ≤ 1) ∧
    (∀ e ∈ (destroyAll (reach n ops)).h.log, e.bad = false) ∧
    (∀ id, (destroyAll (reach n ops)).h.live id = false) ∧
    (∀ id, (destroyAll (reach n ops)).h.log.countP (Event.isFree id) =
           (destroyAll (reach n ops)).h.log.countP (Event.isAlloc id) ∧
           (destroyAll (reach n ops)).h.log.countP (Event.isAlloc id) =
             if id < (destroyAll (reach n ops)).h.next then 1 else 0) :=
  clean_log_of_inv (reach_inv n ops)

set_option maxRecDepth 100000 in
example : (reach 3 demo).h.next = 11 ∧ ((List.range 11).filter (reach 3 demo).h.live).length = 11 := by decide
set_option maxRecDepth 100000 in
example : (destroyAll (reach 3 demo)).h.next = 11 := by decide

/-- a `String` stored in an object, if it points into the heap, is owned, lives in a live block at least
`nbytes ≥ 1` long, and ends in NUL at `nbytes - 1` -/
def Stored (h : Heap) (s : Str) : Prop :=
  ∀ id, s.str = .heap id →
    s.isRef = false ∧ h.live id = true ∧ 1 ≤ s.nbytes ∧ s.nbytes ≤ (h.bytesOf id).length ∧
    (h.bytesOf id)[s.nbytes - 1]? = some 0

/-- what the invariant says about the strings and the dimension array of one object -/
theorem stored_of_inv {s : State} (inv : Inv s) (i : Nat) (hi : i < s.objs.length) :
    Stored s.h (s.obj i).uri ∧ Stored s.h (s.obj i).mdata ∧ Stored s.h (s.obj i).akey ∧ Stored s.h (s.obj i).skey ∧
    ((s.obj i).dimsData = none → (s.obj i).dimsSize = 0) ∧
    (∀ d, (s.obj i).dimsData = some d →
      s.h.live d = true ∧ 0 < (s.obj i).dimsSize ∧ (s.h.dimsOf d).length = (s.obj i).dimsSize ∧
      ∀ dm ∈ s.h.dimsOf d, Stored s.h dm.name) := by
  have ok := inv.ok _ hi
  have ow := inv.owns hi
  have stored : ∀ str : Str, StrOK s.h str → (∀ k, 0 < strCount str k → 0 < objCount s.h (s.obj i) k) → Stored s.h str := by
    intro str sok hcnt id hid
    have h1 := sok.heap_count hid
    unfold StrOK at sok
    simp only [hid] at sok
    exact ⟨sok.1, ow.live (hcnt id (by omega)), sok.2.1, sok.2.2.1, sok.2.2.2⟩
  have fld : ∀ f, Stored s.h ((s.obj i).get f) := fun f =>
    stored _ (ok.get f) fun k hk => objCount_pos_of_field hk _
  refine ⟨fld .uri, fld .mdata, fld .akey, fld .skey, fun hd => (DimsOK_none hd).mp ok.dims, fun d hd => ?_⟩
  have hdims := (DimsOK_some hd).mp ok.dims
  refine ⟨ow.live (objCount_pos_of_dims (dimsCount_data hd _)), hdims.1, hdims.2.1, fun dm hdm => ?_⟩
  exact stored _ (hdims.2.2 dm hdm) fun k hk => objCount_pos_of_dims (dimsCount_pos_of_name hd hdm hk)

/-- **Every stored string stays NUL-terminated with its recorded length.**  After any script, for every
object: each of the four strings and each dimension name is `Stored`; and the dimension array, if any,
is a live block holding exactly `size ≥ 1` elements. -/
theorem C13_terminated (n : Nat) (ops : List Op) (i : Nat) (hi : i < (reach n ops).objs.length) :
    Stored (reach n ops).h ((reach n ops).obj i).uri ∧ Stored (reach n ops).h ((reach n ops).obj i).mdata ∧
    Stored (reach n ops).h ((reach n ops).obj i).akey ∧ Stored (reach n ops).h ((reach n ops).obj i).skey ∧
    (((reach n ops).obj i).dimsData = none → ((reach n ops).obj i).dimsSize = 0) ∧
    (∀ d, ((reach n ops).obj i).dimsData = some d →
      (reach n ops).h.live d = true ∧ 0 < ((reach n ops).obj i).dimsSize ∧
      ((reach n ops).h.dimsOf d).length = ((reach n ops).obj i).dimsSize ∧
      ∀ dm ∈ (reach n ops).h.dimsOf d, Stored (reach n ops).h dm.name) :=
  stored_of_inv (reach_inv n ops) i hi

set_option maxRecDepth 100000 in
example : ((reach 3 demo).obj 0).uri.str = .heap 0 ∧ ((reach 3 demo).obj 0).dimsData = some 2 := by decide
set_option maxRecDepth 100000 in
example : ((reach 3 demo).h.dimsOf 2).map (fun dm => dm.name.str) = [.heap 3, .heap 4] := by decide
-- the unterminated name "tt" was stored as "t\0"
set_option maxRecDepth 100000 in
example : (reach 3 demo).h.bytesOf 4 = [116, 0] := by decide

end AcqVerif.C13
