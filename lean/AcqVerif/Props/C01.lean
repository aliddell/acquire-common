import AcqVerif.Channel.InvStep
/-!
# C01 — the channel delivers every committed byte to each reader exactly once, in order

All theorems quantify over **every state reachable from a fresh channel of any
capacity by any well-formed history** (`Reachable cap s g`): any sequence of write
sizes (committed, aborted or refused), up to any number of readers joining at any
time, any per-read consumed counts, any accept/refuse toggles, in any interleaving
of writer and reader operations.  The usage rules (`Op.wf`) are the API's: one
writer (a map may replace a write that was never ended, an unmap may find nothing mapped, an abort ends a
mapped write); a reader maps only when unmapped.

`g.mem o = some x` reads "buffer byte `o` currently holds byte number `x` of the
committed stream"; `nth s.idx i` is the stream position of reader `i`'s next
unconsumed byte; `nth g.seen i` is the list of byte contents reader `i` has
consumed so far (appended to at each unmap, from what memory held at that time).
-/
namespace AcqVerif.C01
open AcqVerif AcqVerif.Channel

variable {cap : Nat} {s : Sys} {g : Ghost}

/-- **C01.1 / C01.5 / C01.6** — what `channel_read_map` gives a registered, unmapped reader:
status stays `Channel_Ok`; an empty region means the reader is drained (`idx = total`);
a non-empty region lies inside the buffer, inside the committed data, and its bytes are
exactly the next bytes of the stream for this reader, in order. -/
theorem read_map_spec (hr : Reachable cap s g) (i : Nat) (hwf : (Op.rmap i).wf s = true) :
    ∃ beg len, (step s (.rmap i)).2 = .slice beg len 0 ∧
      (len = 0 → nth s.idx i = s.total) ∧
      (∀ j, j < len → g.mem (beg + j) = some (nth s.idx i + j)) ∧
      nth s.idx i + len ≤ s.total ∧ beg + len ≤ cap ∧
      nth (step s (.rmap i)).1.idx i = nth s.idx i := by
  have h := hr.inv
  obtain ⟨hi, hget, hun⟩ := rmap_wf h hwf
  simp only [step, hget]
  rw [readMap_registered _ _ i (h.rd i hi).1.id]
  rcases e : readMapAt s.c (nth s.rds i) i with ⟨c', r', sl⟩
  obtain ⟨_, hst, _, h0, hle, hcap, _⟩ := h.readMapAt_spec i hi hun e
  exact ⟨_, _, by rw [hst], h0, h.read_map_bytes i hi hun e, hle, by rw [← hr.cap]; exact hcap, trivial⟩

/-- **C01.4** — a joining reader starts at a *write boundary no later than the join*: the stream
position `j = total − head` it is assigned is one of the recorded write boundaries and is `≤ total`;
its first region (if any) holds exactly stream bytes `j, j+1, …`. -/
theorem join_spec (hr : Reachable cap s g) :
    ∃ beg len, (step s .join).2 = .slice beg len 0 ∧
      (s.total - s.c.head) ∈ s.bounds ∧ s.total - s.c.head ≤ s.total ∧
      nth (step s .join).1.join s.rds.length = s.total - s.c.head ∧
      nth (step s .join).1.idx s.rds.length = s.total - s.c.head ∧
      (len = 0 → s.total - s.c.head = s.total) ∧
      (∀ k, k < len → g.mem (beg + k) = some (s.total - s.c.head + k)) ∧
      s.total - s.c.head + len ≤ s.total := by
  have h := hr.inv
  have hr0 : nth s.joined.rds s.c.holds.length = { id := s.c.holds.length + 1 } := nth_append_eq _ _ h.l_rds
  have hix : nth s.joined.idx s.c.holds.length = s.total - s.c.head := nth_append_eq _ _ h.l_idx
  have hjj : nth (s.join ++ [s.total - s.c.head]) s.rds.length = s.total - s.c.head :=
    nth_append_eq _ _ (h.l_join.trans h.l_rds.symm)
  have hji : nth (s.idx ++ [s.total - s.c.head]) s.rds.length = s.total - s.c.head :=
    nth_append_eq _ _ (h.l_idx.trans h.l_rds.symm)
  simp only [step, readMap, readerInit, Nat.lt_irrefl, ↓reduceIte, Nat.add_sub_cancel]
  rcases e : readMapAt { s.c with holds := s.c.holds ++ [⟨0, s.c.cycle⟩] } { id := s.c.holds.length + 1 } s.c.holds.length with
    ⟨c', r', sl⟩
  rw [← hr0] at e
  obtain ⟨_, hst, _, h0, hle, _, _⟩ := h.joined.readMapAt_spec s.c.holds.length (by simp [Sys.joined]) (by rw [hr0]) e
  have hb := h.joined.read_map_bytes s.c.holds.length (by simp [Sys.joined]) (by rw [hr0]) e
  rw [hix] at h0 hle hb
  exact ⟨_, _, by rw [hst], h.b_lap, Nat.sub_le _ _, hjj, hji, h0, hb, hle⟩

/-- **C01.2** — only reader `i`'s own unmap moves its stream position, and it moves it by exactly the
number of bytes consumed (`min k length-of-the-mapped-region`). -/
theorem unmap_advances (hr : Reachable cap s g) (i k : Nat) (hi : i < s.rds.length) :
    nth (step s (.runmap i k)).1.idx i =
      nth s.idx i + min (if (nth s.rds i).mapped then availBytes (nth s.rds i) (nth s.c.holds i) s.c.high else 0) k := by
  have h := hr.inv
  simp only [step, getElem?_eq_some_nth _ _ hi]
  exact nth_set_eq _ _ _ (by rw [h.l_idx, ← h.l_rds]; exact hi)

theorem idx_unchanged_by_others (hr : Reachable cap s g) (op : Op) (i : Nat) (hi : i < s.rds.length)
    (hne : ∀ k, op ≠ .runmap i k) : nth (step s op).1.idx i = nth s.idx i := by
  have h := hr.inv
  have hi' : i < s.idx.length := by rw [h.l_idx, ← h.l_rds]; exact hi
  cases op with
  | wmap n => simp only [step]; split <;> rfl
  | wcommit => simp only [step]; split <;> rfl
  | wabort => rfl
  | accept b => rfl
  | join => simp only [step]; exact nth_append_lt _ _ _ hi'
  | rmap i' => simp only [step]; split <;> rfl
  | runmap i' k =>
    simp only [step]
    split
    · rfl
    · simp only
      have : i' ≠ i := by intro e; subst e; exact hne k rfl
      exact nth_set_ne _ _ _ _ this

/-- **C01.3** — in every reachable state the bytes reader `i` has consumed so far are *exactly* the
stream positions `join i, join i + 1, …, idx i − 1`, in that order: nothing lost, duplicated,
reordered or altered; `join i` is a write boundary and `idx i ≤ total`. -/
theorem consumed_is_stream (hr : Reachable cap s g) (i : Nat) (hi : i < s.rds.length) :
    nth g.seen i = (List.range' (nth s.join i) (nth s.idx i - nth s.join i)).map some ∧
    nth s.join i ≤ nth s.idx i ∧ nth s.idx i ≤ s.total ∧ nth s.join i ∈ s.bounds := by
  have h := hr.inv
  obtain ⟨ri, hb⟩ := h.rd i (by rw [← h.l_rds]; exact hi)
  refine ⟨ri.seen_ok, ri.jle, ?_, hb⟩
  have := ri.hold; unfold HoldRel at this; omega

/-- every recorded write boundary is a stream position at which a committed write ended
(`≤ total`), and `bounds` only ever grows by commits (definition of `step`). -/
theorem bounds_le_total (hr : Reachable cap s g) : ∀ b ∈ s.bounds, b ≤ s.total := hr.inv.b_le

/-- **C01.6** — in well-formed histories a reader's status never leaves `Channel_Ok`. -/
theorem status_stays_ok (hr : Reachable cap s g) (i : Nat) (hi : i < s.rds.length) :
    (nth s.rds i).status = 0 :=
  (hr.inv.rd i (by rw [← hr.inv.l_rds]; exact hi)).1.st

/-! ## Non-vacuity: concrete, non-trivial reachable states -/

/-- a history with a wrap, a lap change and partial consumption (cap 16, two readers) -/
def demo : List Op :=
  [.join, .wmap 10, .wcommit, .rmap 0, .runmap 0 10, .join, .runmap 1 10, .wmap 10, .wcommit, .rmap 0, .runmap 0 3,
   .rmap 1, .wmap 4, .wabort, .accept false, .wmap 2, .accept true, .runmap 1 99]

example : wfRun (Sys.init 16) demo = true := by decide
example : Reachable 16 (run (Sys.init 16) demo) (grun (Sys.init 16) {} demo) := ⟨⟨demo, by decide, rfl, rfl⟩⟩
-- the state is non-trivial: the writer has wrapped, reader 0 is mid-region, reader 1 is drained
example : (run (Sys.init 16) demo).c.cycle = 1 ∧ (run (Sys.init 16) demo).idx = [13, 20] ∧
    (run (Sys.init 16) demo).total = 20 := by decide
-- `rmap 1` is well-formed there (hypothesis of `read_map_spec`) and yields an empty region: drained
example : (Op.rmap 1).wf (run (Sys.init 16) demo) = true := by decide
example : (step (run (Sys.init 16) demo) (.rmap 1)).2 = .slice 10 0 0 := by decide

end AcqVerif.C01
