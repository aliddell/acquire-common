import AcqVerif.Channel.ConcStep
import AcqVerif.Channel.Drain
import AcqVerif.Props.LockDiscipline
/-!
# C03 — a blocked writer always resumes when space is released or writes are refused

The theorems quantify over **every schedule**: `CReach cap cs` is any state of the
interleaving model (`AcqVerif.Channel.Conc`, steps = intervals between the
synchronisation calls of `channel.c`) reachable from threads running arbitrary
programs of channel calls over any reachable channel state, with one writer thread
and calls that obey the API's usage rules when they run.

Liveness is given as deterministic progress facts (who is enabled, what its step
does); together with weak fairness of the scheduler (an assumption, see DESIGN.md §7)
they give "never blocks forever".
-/
namespace AcqVerif.C03
open AcqVerif AcqVerif.Channel

variable {cap : Nat} {cs : CState}

/-- **C03.1 — no lost wake-up.**  In every reachable state, under every schedule: if a writer is asleep in
`channel_write_map(m)` then either its wait condition still holds (writes accepted and no admissible
placement) or some thread is parked at the `condition_variable_notify_all` that follows its state change. -/
theorem no_lost_wakeup (r : CReach cap cs) (t : Nat) (ht : t < cs.threads.length)
    (hs : (nth cs.threads t).pc = .asleep) (m : Nat) (rest : List Op)
    (hp : (nth cs.threads t).prog = .wmap m :: rest) :
    writeMap cs.sys.c m = .block ∨ ∃ u, u < cs.threads.length ∧ (nth cs.threads u).pc = .notify :=
  r.inv.w2 t ht hs m rest hp

/-- **C03.2a** — a pending notifier is always enabled, and its step wakes *every* sleeping thread. -/
theorem notifier_wakes_all (_r : CReach cap cs) (u : Nat) (hu : u < cs.threads.length)
    (hn : (nth cs.threads u).pc = .notify) (op : Op) (rest : List Op) (hp : (nth cs.threads u).prog = op :: rest) :
    ∃ cs', cstep cs u = some cs' ∧
      ∀ x, x < cs.threads.length → x ≠ u → (nth cs.threads x).pc = .asleep → (nth cs'.threads x).pc = .woken := by
  refine ⟨_, by simp only [cstep, getElem?_eq_some_nth _ _ hu, hn, hp]; rfl, ?_⟩
  intro x hx ex hs
  simp only
  rw [nth_set_ne _ _ _ _ (fun e => ex e.symm), nth_map _ _ _ hx]
  simp [hs]

/-- **C03.2b** — the channel lock is held across scheduler steps only by a thread parked at the entry of
`condition_variable_wait`; that thread's next step is always enabled and releases the lock. -/
theorem lock_held_only_at_wait_entry (r : CReach cap cs) (t : Nat) (hl : cs.lock = some t) :
    t < cs.threads.length ∧ (nth cs.threads t).pc = .waitEntry ∧
    ∃ cs', cstep cs t = some cs' ∧ cs'.lock = none ∧ (nth cs'.threads t).pc = .asleep := by
  obtain ⟨ht, hpc⟩ := r.inv.lock1 t hl
  refine ⟨ht, hpc, _, by simp only [cstep, getElem?_eq_some_nth _ _ ht, hpc]; rfl, rfl, ?_⟩
  simp only; rw [nth_set_eq _ _ _ ht]

/-- **C03.2c** — a woken writer whose request is now admissible (or refused) returns from
`channel_write_map` in one step as soon as the lock is free: it does not go back to sleep. -/
theorem woken_writer_returns (t : Nat) (ht : t < cs.threads.length) (hw : (nth cs.threads t).pc = .woken)
    (m : Nat) (rest : List Op) (hp : (nth cs.threads t).prog = .wmap m :: rest)
    (hl : cs.lock = none) (hadm : writeMap cs.sys.c m ≠ .block) :
    ∃ cs', cstep cs t = some cs' ∧ cs'.lock = none ∧
      ((nth cs'.threads t).pc = .lockReq ∨ (nth cs'.threads t).pc = .done) ∧
      ∃ pre, rest = pre ++ (nth cs'.threads t).prog := by
  have hstep : cstep cs t = some (runBody cs t (.wmap m) rest) := by
    simp only [cstep, getElem?_eq_some_nth _ _ ht, hw, hp, hl, Option.isNone_none, ↓reduceIte]
  rcases runBody_cases cs t (.wmap m) rest with ⟨m', e1, e2, _⟩ | ⟨hn, _⟩ | ⟨_, e3⟩
  · cases e1; exact absurd e2 hadm
  · cases hn
  · refine ⟨_, hstep, ?_⟩
    rw [e3]
    simp only
    rw [nth_set_eq _ _ _ ht]
    exact ⟨trivial, settle_pc _ _, settle_suffix _ _⟩

/-- **C03 (deadlock freedom of the protocol)** — whenever a writer sleeps although its request has become
admissible or writes are refused, some thread is enabled (the pending notifier): the system is not stuck,
and by `notifier_wakes_all` + `woken_writer_returns` the writer returns two of its own steps later. -/
theorem not_stuck_while_admissible (r : CReach cap cs) (t : Nat) (ht : t < cs.threads.length)
    (hs : (nth cs.threads t).pc = .asleep) (m : Nat) (rest : List Op)
    (hp : (nth cs.threads t).prog = .wmap m :: rest) (hadm : writeMap cs.sys.c m ≠ .block) :
    ∃ u, enabled cs u = true := by
  rcases no_lost_wakeup r t ht hs m rest hp with hb | ⟨u, hu, hn⟩
  · exact absurd hb hadm
  · obtain ⟨op, rest', hpu⟩ := List.exists_cons_of_ne_nil (r.notify_has_call _ (nth_mem _ _ hu) hn)
    obtain ⟨cs', e, _⟩ := notifier_wakes_all r u hu hn op rest' hpu
    exact ⟨u, by rw [enabled, e]; rfl⟩

/-- **C03.4** — once the channel refuses writes, `channel_write_map` never waits. -/
theorem refusal_returns_null (c : Chan) (n : Nat) (h : c.accepting = false) : writeMap c n ≠ .block :=
  writeMap_refused c n h

/-- **C03.3** — once every registered reader has caught up, every request below the capacity is admissible;
together with `no_lost_wakeup` (the catching-up `read_unmap` / `read_map` is followed by a notification)
the writer proceeds once the readers have consumed enough. -/
theorem space_when_drained {s : Sys} {g : Ghost} (hr : Reachable cap s g) (n : Nat) (hn : n < s.c.cap)
    (hd : ∀ i, i < s.c.holds.length → nth s.c.holds i = ⟨s.c.head, s.c.cycle⟩) : writeMap s.c n ≠ .block :=
  space_when_caught_up s.c n hn hd

/-- **C03.5** — readers that keep reading reach the drained state in a bounded number of calls: with the
writer quiescent, after two `read_map; read_unmap(all)` rounds the next `read_map` returns an empty
region and nothing is left unread (`readLen`, `unread`, `readAll` in `Channel/Drain.lean`). -/
theorem reader_drains_in_three_reads {s : Sys} {g : Ghost} (hr : Reachable cap s g) (i : Nat)
    (hwf : (Op.rmap i).wf s = true) :
    readLen (readAll (readAll s i) i) i = 0 ∧ unread (readAll (readAll s i) i) i = 0 :=
  Channel.reader_drains_in_three_reads hr i hwf

/-! The lock discipline of the real `channel.c` (table regenerated from the source on every run) is `AcqVerif.LockDiscipline.lock_discipline_of_source`,
in its own module because C01, C02 and C05 rely on it as well. -/

/-! ## Non-vacuity -/

/-- ring full, the writer blocks on 8 bytes; a reader unmaps; a controller refuses writes -/
def demoSys : Sys := run (Sys.init 16) [.join, .wmap 10, .wcommit, .wmap 5, .wcommit, .rmap 0]
def demo : CState := CState.init demoSys [[.wmap 8, .wcommit], [.runmap 0 99], [.accept false]]

example : Reachable 16 demoSys (grun (Sys.init 16) {} [.join, .wmap 10, .wcommit, .wmap 5, .wcommit, .rmap 0]) :=
  ⟨⟨_, by decide, rfl, rfl⟩⟩
-- writer: start, lock (blocks), wait (sleeps); the asleep state is reached
example : (nth (crun demo [0, 0, 0]).threads 0).pc = .asleep := by decide
-- reader: start, lock (body), now parked at notify: the second disjunct of `no_lost_wakeup`
example : (nth (crun demo [0, 0, 0, 1, 1]).threads 1).pc = .notify ∧
    (match writeMap (crun demo [0, 0, 0, 1, 1]).sys.c 8 with | .block => false | _ => true) = true := by decide
-- after the notify step the writer is woken, re-acquires and returns a region at offset 0
example : (nth (crun demo [0, 0, 0, 1, 1, 1]).threads 0).pc = .woken := by decide
example : (crun demo [0, 0, 0, 1, 1, 1, 0]).sys.c.mapped = 8 := by decide

-- a reader two regions behind (rest of the old lap + the new lap): drained after two rounds
def drainDemo : Sys := run (Sys.init 16) [.join, .wmap 10, .wcommit, .rmap 0, .runmap 0 4, .wmap 4, .wcommit, .wmap 3, .wcommit]
example : (Op.rmap 0).wf drainDemo = true ∧ readLen drainDemo 0 = 10 ∧ unread drainDemo 0 = 13 ∧
    readLen (readAll drainDemo 0) 0 = 3 := by decide

end AcqVerif.C03
