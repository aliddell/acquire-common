import AcqVerif.Channel.InvStep
/-!
# C02 — the writer is never given memory a reader still holds or has not consumed

Same model, same invariant, same quantifier as C01: every state reachable from a
fresh channel of any capacity by any well-formed history (so in particular the
instants at which the buffer is exactly full, or exactly empty at a wrap boundary).
-/
namespace AcqVerif.C02
open AcqVerif AcqVerif.Channel

variable {cap : Nat} {s : Sys} {g : Ghost}

/-- the mapped region of reader `i`: offset and length -/
def regionBeg (s : Sys) (i : Nat) : Nat := (nth s.c.holds i).pos
def regionLen (s : Sys) (i : Nat) : Nat :=
  if (nth s.rds i).mapped then availBytes (nth s.rds i) (nth s.c.holds i) s.c.high else 0

/-- where reader `i`'s region lies relative to the writer's cursors: it ends at or before `head` when the reader is on the
writer's lap, and lies within `[mapped, high]` when it is one lap behind; it never reaches beyond the committed bytes, and it
is not empty when the reader is mapped (a reader that is not mapped has the empty region at its bookmark) -/
theorem region_extent {s : Sys} {g : Ghost} (h : Inv s g) (i : Nat) (hi : i < s.c.holds.length) :
    (((nth s.c.holds i).cyc = s.c.cycle ∧ regionBeg s i + regionLen s i ≤ s.c.head) ∨
     ((nth s.c.holds i).cyc + 1 = s.c.cycle ∧ s.c.mapped ≤ regionBeg s i ∧ regionBeg s i + regionLen s i ≤ s.c.high)) ∧
    nth s.idx i + regionLen s i ≤ s.total ∧ ((nth s.rds i).mapped = true → 0 < regionLen s i) := by
  obtain ⟨ri, _⟩ := h.rd i hi
  unfold regionLen regionBeg
  cases hm : (nth s.rds i).mapped with
  | false =>
    simp only [Bool.false_eq_true, ↓reduceIte, false_implies, and_true, Nat.add_zero]
    rcases ri.hold with ⟨a, b, e⟩ | ⟨a, b, b', e⟩
    · exact ⟨Or.inl ⟨a, b⟩, by omega⟩
    · exact ⟨Or.inr ⟨a, b, b'⟩, by omega⟩
  | true =>
    simp only [↓reduceIte, true_implies]
    rcases ri.mapped hm with ⟨_, lt, m3, m4⟩ | ⟨e1, e2, lt, _⟩
    · -- the region ends at the handle's `pos`, on the bookmark's own lap
      rw [availBytes_same _ _ _ lt]
      rcases ri.hold with ⟨a, b, e⟩ | ⟨a, b, b', e⟩
      · have := m3 a
        exact ⟨Or.inl ⟨a, by omega⟩, by omega, by omega⟩
      · have := m4 a
        exact ⟨Or.inr ⟨a, b, by omega⟩, by omega, by omega⟩
    · -- the region is the rest of the previous lap
      rw [availBytes_next _ _ _ e1 e2]
      rcases ri.hold with ⟨a, b, e⟩ | ⟨a, b, b', e⟩
      · omega
      · exact ⟨Or.inr ⟨a, b, by omega⟩, by omega, by omega⟩

/-- **C02.1** — a region handed to the writer is contiguous and lies inside the buffer. -/
theorem write_region_in_buffer (hr : Reachable cap s g) (n beg : Nat)
    (hw : (step s (.wmap n)).2 = .wok beg) : beg + n ≤ cap := by
  have h := hr.inv
  have h1 := h.hm; have h2 := h.mc
  obtain ⟨c', hwm⟩ := writeMap_of_wok hw
  obtain ⟨hn, hc⟩ := writeMap_ok_cases h hwm
  rw [← hr.cap]
  rcases hc with ⟨e, _, hfit, _⟩ | ⟨e, _, _⟩ | ⟨e, _, _⟩ <;> omega

/-- **C02.2** — the region handed to the writer (a) does not intersect the region any reader has
mapped and (b) contains no byte that some reader has yet to consume: whatever stream byte `x` a
location of the region still holds, every reader's position is already beyond `x`. -/
theorem write_avoids_readers (hr : Reachable cap s g) (n beg : Nat)
    (hw : (step s (.wmap n)).2 = .wok beg) (i : Nat) (hi : i < s.rds.length) :
    (regionLen s i = 0 ∨ beg + n ≤ regionBeg s i ∨ regionBeg s i + regionLen s i ≤ beg) ∧
    (∀ o x, beg ≤ o → o < beg + n → g.mem o = some x → x < nth s.idx i) := by
  have h := hr.inv
  have h1 := h.hm; have h2 := h.mc; have h3 := h.hc; have h4 := h.ht
  have hi' : i < s.c.holds.length := by rw [← h.l_rds]; exact hi
  have hold := (h.rd i hi').1.hold
  unfold HoldRel at hold
  have hext := (region_extent h i hi').1
  obtain ⟨c', hwm⟩ := writeMap_of_wok hw
  obtain ⟨hn, hc⟩ := writeMap_ok_cases h hwm
  unfold regionBeg at hext ⊢
  rcases hc with ⟨rfl, _, hfit, hp⟩ | ⟨rfl, _, hp⟩ | ⟨rfl, _, hp⟩
  · -- region [head, head+n)
    have hpi := hp i hi'
    refine ⟨by omega, fun o x ho1 ho2 hx => ?_⟩
    have := h.old o x hx ho1
    omega
  · -- wrap: region [0, n), every reader is in the writer's lap with n ≤ pos
    obtain ⟨hcy, hnp⟩ := hp i hi'
    refine ⟨by omega, fun o x ho1 ho2 hx => ?_⟩
    have := h.cur o (by omega); rw [hx] at this; cases this
    omega
  · -- wrap with reset: every reader is drained
    obtain ⟨hcy, hnp⟩ := hp i hi'
    refine ⟨by omega, fun o x ho1 ho2 hx => ?_⟩
    by_cases ho : o < s.c.head
    · have := h.cur o ho; rw [hx] at this; cases this; omega
    · have := h.old o x hx (by omega); omega

/-- **C02.4** — a mapped reader's region lies inside the buffer and inside the committed data, and
holds the reader's next `len` stream bytes. -/
theorem read_region_committed (hr : Reachable cap s g) (i : Nat) (hi : i < s.rds.length)
    (hm : (nth s.rds i).mapped = true) :
    0 < regionLen s i ∧ regionBeg s i + regionLen s i ≤ cap ∧ nth s.idx i + regionLen s i ≤ s.total ∧
    ∀ j, j < regionLen s i → g.mem (regionBeg s i + j) = some (nth s.idx i + j) := by
  have h := hr.inv
  have h1 := h.hm; have h2 := h.mc; have h3 := h.hc
  have hi' : i < s.c.holds.length := by rw [← h.l_rds]; exact hi
  obtain ⟨ri, _⟩ := h.rd i hi'
  obtain ⟨hx, ht, hp⟩ := region_extent h i hi'
  refine ⟨hp hm, by rw [← hr.cap]; omega, ht, ?_⟩
  unfold regionLen regionBeg
  rw [if_pos hm]
  exact region_bytes s.c s.total g.mem _ _ _ ri.hold ri.prev h.cur (ri.mapped hm)

/-- **C02.3a** — while a write is pending, its region does not intersect any mapped reader region. -/
theorem pending_write_disjoint (hr : Reachable cap s g) (hp : s.pending = true) (i : Nat) (hi : i < s.rds.length) :
    s.wbeg + s.wlen ≤ regionBeg s i ∨ regionBeg s i + regionLen s i ≤ s.wbeg := by
  have h := hr.inv
  have h1 := h.hm
  obtain ⟨p1, p2⟩ := h.pend hp
  have := (region_extent h i (by rw [← h.l_rds]; exact hi)).1
  omega

/-- a state in which reader `i`'s handle, bookmark and stream position, and `high`, are those of `s` gives it the region it has in `s` -/
theorem frame_of {s s' : Sys} (i : Nat) (hr : nth s'.rds i = nth s.rds i) (hh : nth s'.c.holds i = nth s.c.holds i)
    (hg : s'.c.high = s.c.high) (hx : nth s'.idx i = nth s.idx i) :
    nth s'.rds i = nth s.rds i ∧ regionBeg s' i = regionBeg s i ∧ regionLen s' i = regionLen s i ∧
      nth s'.idx i = nth s.idx i := by
  unfold regionBeg regionLen
  rw [hr, hh, hg]
  exact ⟨rfl, rfl, rfl, hx⟩

/-- no operation other than reader `i`'s own unmap moves a *mapped* reader `i`: its handle, its
hold, its stream position and the extent of its region stay what they were. -/
theorem mapped_reader_frame (hr : Reachable cap s g) (op : Op) (hwf : op.wf s = true) (i : Nat)
    (hi : i < s.rds.length) (hm : (nth s.rds i).mapped = true) (hne : ∀ k, op ≠ .runmap i k) :
    nth (step s op).1.rds i = nth s.rds i ∧ regionBeg (step s op).1 i = regionBeg s i ∧
    regionLen (step s op).1 i = regionLen s i ∧ nth (step s op).1.idx i = nth s.idx i := by
  have h := hr.inv
  have hi' : i < s.c.holds.length := by rw [← h.l_rds]; exact hi
  have hix : i < s.idx.length := by rw [h.l_idx]; exact hi'
  cases op with
  | wmap n =>
    cases hwm : writeMap s.c n with
    | null => refine frame_of i ?_ ?_ ?_ ?_ <;> simp only [step, hwm]
    | block => refine frame_of i ?_ ?_ ?_ ?_ <;> simp only [step, hwm]
    | ok b c' =>
      obtain ⟨hn, hc⟩ := writeMap_ok_cases h hwm
      have m := (h.rd i hi').1.mapped hm
      rcases hc with ⟨e, ec, hfit, hp⟩ | ⟨e, ec, hp⟩ | ⟨e, ec, hp⟩
      · subst ec; refine frame_of i ?_ ?_ ?_ ?_ <;> simp only [step, hwm]
      · -- wrap: `high` becomes the old `head`; the length of a region that ends on the reader's own lap does not depend on it
        subst ec
        obtain ⟨hcy, _⟩ := hp i hi'
        simp only [step, hwm]
        refine ⟨trivial, rfl, ?_, trivial⟩
        unfold regionLen; simp only [hm, ↓reduceIte]
        rcases m with ⟨_, m2, _, _⟩ | ⟨_, _, _, m4⟩
        · rw [availBytes_same _ _ _ m2, availBytes_same _ _ _ m2]
        · omega
      · -- a reset needs every reader drained: impossible while reader `i` is mapped
        exfalso
        obtain ⟨hcy, hpp⟩ := hp i hi'
        unfold MappedRel at m; omega
  | wcommit => refine frame_of i ?_ ?_ ?_ ?_ <;> simp only [step, writeUnmap] <;> (repeat' split) <;> rfl
  | wabort => refine frame_of i ?_ ?_ ?_ ?_ <;> simp only [step, abortWrite] <;> split <;> rfl
  | accept b => exact frame_of i (by rfl) (by rfl) (by rfl) (by rfl)
  | join =>
    refine frame_of i ?_ ?_ ?_ ?_ <;>
      simp only [step, readMap, readerInit, Nat.lt_irrefl, ↓reduceIte, Nat.add_sub_cancel, readMapAt]
    · exact nth_append_lt _ _ _ hi
    · rw [readMapCore_holds_ne _ _ _ _ _ (by omega)]
      exact nth_append_lt _ _ _ hi'
    · exact (readMapCore_fields _ _ _ _).1
    · exact nth_append_lt _ _ _ hix
  | rmap i' =>
    obtain ⟨hi2, hget, hun⟩ := rmap_wf h hwf
    have hne' : i' ≠ i := by intro e; subst e; rw [hm] at hun; cases hun
    refine frame_of i ?_ ?_ ?_ ?_ <;> simp only [step, hget, readMap_registered _ _ i' (h.rd i' hi2).1.id]
    · exact nth_set_ne _ _ _ _ hne'
    · exact readMapCore_holds_ne _ _ _ _ _ hne'
    · exact (readMapCore_fields _ _ _ _).1
  | runmap i' k =>
    have hne' : i' ≠ i := by intro e; subst e; exact hne k rfl
    simp only [Op.wf, decide_eq_true_eq] at hwf
    have hid : (nth s.rds i').id - 1 = i' := by
      have := (h.rd i' (by rw [← h.l_rds]; exact hwf)).1.id; omega
    refine frame_of i ?_ ?_ ?_ ?_ <;> simp only [step, getElem?_eq_some_nth _ _ hwf, readUnmap, hid, setHold]
    · exact nth_set_ne _ _ _ _ hne'
    · split
      · rfl
      · exact nth_set_ne _ _ _ _ hne'
    · split <;> rfl
    · exact nth_set_ne _ _ _ _ hne'

/-- **C02.3** — from `read_map` to the matching `read_unmap`, the bytes of reader `i`'s region are not
modified: after any well-formed operation of anybody else, the same region still holds the same
stream bytes. -/
theorem mapped_region_stable (hr : Reachable cap s g) (op : Op) (hwf : op.wf s = true) (i : Nat)
    (hi : i < s.rds.length) (hm : (nth s.rds i).mapped = true) (hne : ∀ k, op ≠ .runmap i k) :
    ∀ j, j < regionLen s i → (gstep s g op).mem (regionBeg s i + j) = g.mem (regionBeg s i + j) := by
  intro j hj
  obtain ⟨e1, e2, e3, e4⟩ := mapped_reader_frame hr op hwf i hi hm hne
  have hr' := hr.step op hwf
  have hm' : (nth (step s op).1.rds i).mapped = true := by rw [e1]; exact hm
  have hi2 : i < (step s op).1.rds.length := by
    refine Nat.lt_of_not_le fun hge => ?_
    rw [nth_beyond _ _ hge] at hm'; cases hm'
  have a := (read_region_committed hr i hi hm).2.2.2 j hj
  have b := (read_region_committed hr' i hi2 hm').2.2.2 j (by rw [e3]; exact hj)
  rw [e2, e4] at b
  rw [a, b]

/-! ## Non-vacuity: the buffer exactly full, and exactly empty at a wrap boundary -/

/-- cap 8, one reader: the writer fills the buffer to the last byte while the reader holds all of it -/
def fullDemo : List Op := [.join, .wmap 4, .wcommit, .wmap 3, .wcommit, .rmap 0]
example : wfRun (Sys.init 8) fullDemo = true := by decide
example : (step (run (Sys.init 8) fullDemo) (.wmap 1)).2 = .wok 7 := by decide     -- last byte
example : (step (run (Sys.init 8) (fullDemo ++ [.wmap 1, .wcommit])) (.wmap 1)).2 = .wblock := by decide  -- exactly full
/-- … and once the reader has consumed everything the writer wraps with a reset (exactly empty at the boundary) -/
example : (step (run (Sys.init 8) (fullDemo ++ [.wmap 1, .wcommit, .runmap 0 99, .rmap 0, .runmap 0 99])) (.wmap 5)).2 = .wok 0 := by
  decide
example : regionLen (run (Sys.init 8) fullDemo) 0 = 7 ∧ (nth (run (Sys.init 8) fullDemo).rds 0).mapped = true := by decide

end AcqVerif.C02
