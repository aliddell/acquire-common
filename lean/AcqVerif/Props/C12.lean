import AcqVerif.Select.Lemmas
/-!
# C12 — device selection agrees with enumeration; bad input gives errors, not crashes

Property theorems over the model `AcqVerif/Select/Model.lean` (device.manager.cpp, loader.c,
driver.c) and the regex layer `AcqVerif/Select/Regex.lean`.  All statements hold for *every*
manager state (any list of enumerated identifiers, any subset of loaded drivers), every kind
value, every byte string and every engine (= every behaviour of `std::regex`).
-/
namespace AcqVerif.C12
open AcqVerif.Select AcqVerif.Generated

/-- what the property calls "a device of that kind whose whole name matches the pattern
(any device of the kind for an empty pattern)"; `name` is the effective name (`stdName`) and
`re` the engine's whole-string verdicts for the pattern -/
def Accepts (kind : Nat) (name : Bytes) (re : Bytes → Bool) (e : Entry) : Prop :=
  e.ident.kind = kind ∧ (name = [] ∨ re e.ident.name = true)

/-- `d` is the identifier at the least enumeration index (the index `device_manager_get` uses)
whose entry satisfies `P` -/
def IsFirst (m : Manager) (P : Entry → Prop) (d : Ident) : Prop :=
  ∃ (i : Nat) (e : Entry), m.identifiers[i]? = some e ∧ e.ident = d ∧ P e ∧
    ∀ j : Nat, j < i → ∀ x, m.identifiers[j]? = some x → ¬ P x

/-- a small manager used by the non-vacuity examples: the real common driver in slot 0,
slot 1 absent, a one-device mock in slot 2 -/
def demoLibs : List LibState :=
  [.loaded commonDriver, .absent,
   .loaded (driverOfRows 1 [{ index := 0, descOk := true, deviceId := 0, kind := 2, name := [84, 82, 65, 83, 72],
                              openOk := true, oDescOk := true, oDeviceId := 0, oKind := 2, oName := [84, 82, 65, 83, 72], closeOk := true }])]
def demo : Manager := Manager.init demoLibs
/-- `trash` -/
def trash : Bytes := [116, 114, 97, 115, 104]

/-! ## 1. the result is the first enumerated device of the kind whose whole name matches -/

/-- **First match.** If the engine accepts the pattern (the C string of the caller's bytes) then
`device_manager_select` returns `Ok d` exactly when `d` is the first enumerated identifier — in
`device_manager_get` index order — of the requested kind whose whole name the engine matches
(or, for an empty effective name, the first of the kind). -/
theorem C12_first_match (m : Manager) (kind : Nat) (bs : Bytes) (engine : Engine) (re : Bytes → Bool)
    (hc : engine (cstr bs) = some re) (d : Ident) :
    m.select kind (.buf bs) engine = .ok d ↔ IsFirst m (Accepts kind (stdName (.buf bs)) re) d := by
  rw [select_buf]
  exact selectCore_ok_iff m kind _ engine re (by rwa [cstr_stdName_buf]) (accepts_iff kind _ re) d

example : demo.select 2 (.buf trash) (reEngine (Re.lit trash)) = .ok ⟨0, 5, 2, trash⟩ := by decide
example : IsFirst demo (Accepts 2 (stdName (.buf trash)) (matchesRe (Re.lit trash))) ⟨0, 5, 2, trash⟩ :=
  (C12_first_match demo 2 trash (reEngine (Re.lit trash)) _ rfl _).1 (by decide)

/-- **No match is an error.** With a pattern the engine accepts, `Err` is returned exactly when
no enumerated identifier of the kind matches. -/
theorem C12_no_match_is_error (m : Manager) (kind : Nat) (bs : Bytes) (engine : Engine) (re : Bytes → Bool)
    (hc : engine (cstr bs) = some re) :
    m.select kind (.buf bs) engine = .err ↔
      ∀ e, e ∈ m.identifiers → ¬ Accepts kind (stdName (.buf bs)) re e := by
  rw [select_buf]
  exact selectCore_err_iff m kind _ engine re (by rwa [cstr_stdName_buf]) (accepts_iff kind _ re)

example : demo.select 1 (.buf trash) (reEngine (Re.lit trash)) = .err := by decide
example : demo.select 2 (.buf [116, 114, 97]) (reEngine (Re.lit [116, 114, 97])) = .err := by decide

/-! ## 2. empty pattern ⇒ first device of the kind -/

/-- **Empty pattern.** `NULL`/0, a zero length, or nothing but NUL bytes: the result is the first
enumerated identifier of the kind, whatever the engine says about names (`std::regex("")` is
well formed: `engine [] = some re`). -/
theorem C12_empty_pattern (m : Manager) (kind : Nat) (arg : NameArg) (engine : Engine) (re : Bytes → Bool)
    (harg : ∀ n, arg ≠ .null (n + 1)) (hempty : stdName arg = []) (hc : engine [] = some re) (d : Ident) :
    (m.select kind arg engine = .ok d ↔ IsFirst m (fun e => e.ident.kind = kind) d) ∧
    (m.selectFirst kind engine = .ok d ↔ IsFirst m (fun e => e.ident.kind = kind) d) := by
  have core : m.selectCore kind [] engine = .ok d ↔ IsFirst m (fun e => e.ident.kind = kind) d :=
    selectCore_ok_iff m kind [] engine re hc (fun e => by simp [accepts]) d
  refine ⟨?_, core⟩
  cases arg with
  | null len =>
    cases len with
    | zero => exact core
    | succ n => exact absurd rfl (harg n)
  | buf bs => rw [select_buf, hempty]; exact core

example : demo.select 2 (.buf [0, 0]) (reEngine .eps) = .ok ⟨0, 3, 2, [114, 97, 119]⟩ := by decide
example : demo.selectFirst 1 (reEngine .eps) = demo.get 0 := by decide

/-! ## 3. the NUL rule -/

/-- **NUL rule.** (a) the answer depends on the engine only through the C string of the
caller's bytes (the regex is built from `name.c_str()`); (b) NUL padding is stripped:
`"trash\0\0"` selects exactly like `"trash"`; (c) a NUL-free name is used as it is. -/
theorem C12_nul_rule (m : Manager) (kind : Nat) (engine : Engine) :
    (∀ bs (engine' : Engine), engine (cstr bs) = engine' (cstr bs) →
        m.select kind (.buf bs) engine = m.select kind (.buf bs) engine') ∧
    (∀ (p : Bytes) (k : Nat), (∀ b, b ∈ p → b ≠ 0) →
        m.select kind (.buf (p ++ List.replicate (k + 1) 0)) engine = m.select kind (.buf p) engine) ∧
    (∀ bs : Bytes, (∀ b, b ∈ bs → b ≠ 0) → stdName (.buf bs) = bs ∧ cstr bs = bs) := by
  refine ⟨fun bs engine' h => ?_, fun p k h => ?_, fun bs h => ⟨stdName_nulfree h, cstr_of_nulfree h⟩⟩
  · simp only [select_buf, Manager.selectCore, cstr_stdName_buf, h]
  · rw [select_buf, select_buf, stdName_padded k h, stdName_nulfree h]

example : demo.select 2 (.buf (trash ++ [0, 0])) (reEngine (Re.lit trash)) = .ok ⟨0, 5, 2, trash⟩ := by decide
-- an embedded NUL with a non-NUL last byte is *not* an empty name: the pattern is "" and matches no device
example : demo.select 2 (.buf [0, 97]) (reEngine .eps) = .err := by decide

/-! ## 4. bad input gives an error status -/

/-- **Bad input is an error.** A pattern the engine rejects (`std::regex_error`), a NULL name with a
non-zero length, a kind no enumerated device has, an out-of-range index and a driver id
without a loaded driver all produce the error result. -/
theorem C12_bad_input_is_error (m : Manager) (kind : Nat) (engine : Engine) :
    (∀ bs, engine (cstr bs) = none → m.select kind (.buf bs) engine = .err) ∧
    (∀ n, m.select kind (.null (n + 1)) engine = .err) ∧
    ((∀ e, e ∈ m.identifiers → e.ident.kind ≠ kind) →
        ∀ arg, m.select kind arg engine = .err ∧ m.selectFirst kind engine = .err ∧ m.selectDefault kind engine = .err) ∧
    (∀ i, m.count ≤ i → m.get i = .err) ∧
    (∀ ident : Ident, m.drivers.length ≤ ident.driverId → m.getDriver ident = none ∧ m.openIdent ident = .err) := by
  refine ⟨fun bs h => ?_, fun n => rfl, fun h => ?_, get_out_of_range m, fun ident h => ?_⟩
  · rw [select_buf]
    exact selectCore_bad_regex m kind _ engine (by rwa [cstr_stdName_buf])
  · have := select_cases m kind engine (Q := (· = .err)) rfl fun name =>
      (selectCore_total m kind name engine).resolve_right fun ⟨e, he, _, hk⟩ => h e he hk
    exact fun arg => ⟨this.1 arg, this.2⟩
  · have : m.getDriver ident = none := by
      unfold Manager.getDriver
      rw [List.getElem?_eq_none_iff.2 h]
    exact ⟨this, openIdent_of_getDriver_none this⟩

example : demo.select 2 (.buf [91]) (fun _ => none) = .err := by decide           -- "[" rejected
example : demo.select 2 (.null 5) (reEngine .eps) = .err := by decide
example : demo.selectFirst 4294967295 (reEngine .eps) = .err := by decide
example : demo.get 7 = .ok ⟨2, 0, 2, [84, 82, 65, 83, 72]⟩ ∧ demo.get 8 = .err ∧ demo.get 4294967295 = .err := by decide

/-! ## 5. totality -/

/-- **Totality.** Every input — any bytes, NULL with any length, any kind value, any manager
state (any subset of drivers loaded), any engine behaviour — yields `Err`, or `Ok` with an
enumerated identifier of the requested kind.  (That there is a result at all is by
construction in Lean; that the real code also returns is what the harness observes.) -/
theorem C12_total (m : Manager) (kind : Nat) (arg : NameArg) (engine : Engine) :
    (m.select kind arg engine = .err ∨
      ∃ e, e ∈ m.identifiers ∧ m.select kind arg engine = .ok e.ident ∧ e.ident.kind = kind) ∧
    (m.selectFirst kind engine = .err ∨
      ∃ e, e ∈ m.identifiers ∧ m.selectFirst kind engine = .ok e.ident ∧ e.ident.kind = kind) ∧
    (m.selectDefault kind engine = .err ∨
      ∃ e, e ∈ m.identifiers ∧ m.selectDefault kind engine = .ok e.ident ∧ e.ident.kind = kind) := by
  have := select_cases m kind engine
    (Q := fun r => r = .err ∨ ∃ e, e ∈ m.identifiers ∧ r = .ok e.ident ∧ e.ident.kind = kind)
    (.inl rfl) (selectCore_total m kind · engine)
  exact ⟨this.1 arg, this.2⟩

example : ∃ e, e ∈ demo.identifiers ∧ demo.select 2 (.buf trash) (reEngine (Re.lit trash)) = .ok e.ident ∧ e.ident.kind = 2 :=
  ⟨⟨true, ⟨0, 5, 2, trash⟩⟩, by decide, by decide, rfl⟩

/-! ## 6. `get`, absent drivers, enumeration -/

/-- **`get` agrees with the enumeration.** `get i` is `Ok d` exactly for an index below `count`
whose enumeration succeeded, and then `d` is the identifier stored at `i`. -/
theorem C12_get_agrees (m : Manager) (i : Nat) (d : Ident) :
    (m.get i = .ok d ↔ ∃ e, m.identifiers[i]? = some e ∧ e.ok = true ∧ e.ident = d) ∧
    (m.get i = .ok d → i < m.count) := by
  refine ⟨get_ok_iff m i d, fun h => Nat.lt_of_not_le fun h' => ?_⟩
  rw [get_out_of_range m i h'] at h
  cases h

example : demo.get 3 = .ok ⟨0, 3, 2, [114, 97, 119]⟩ ∧ demo.count = 8 := by decide

/-- **Absent drivers.** After `init` over any list of library states: `get_driver` is NULL exactly
for a driver id outside the table or naming a library that is absent / lacks the entry point /
failed to initialise; opening through it is an error; and such libraries contribute no
identifier. -/
theorem C12_absent_driver (libs : List LibState) (ident : Ident) :
    ((Manager.init libs).getDriver ident = none ↔
        libs.length ≤ ident.driverId ∨ ∃ l, libs[ident.driverId]? = some l ∧ ∀ d, l ≠ .loaded d) ∧
    ((Manager.init libs).getDriver ident = none → (Manager.init libs).openIdent ident = .err) ∧
    (∀ e, e ∈ (Manager.init libs).identifiers → ∃ d, libs[e.ident.driverId]? = some (.loaded d)) := by
  refine ⟨?_, openIdent_of_getDriver_none, fun e he => ?_⟩
  · rw [getDriver_init]
    cases h : libs[ident.driverId]? with
    | none => simp [List.getElem?_eq_none_iff.1 h]
    | some l =>
      have : ¬ libs.length ≤ ident.driverId := fun hh => by rw [List.getElem?_eq_none_iff.2 hh] at h; cases h
      cases l <;> simp [driverLoad, this]
  · obtain ⟨slot, d, i, hs, _, rfl⟩ := mem_init_identifiers.1 he
    exact ⟨d, hs⟩

example : demo.getDriver ⟨1, 0, 0, []⟩ = none ∧ demo.getDriver ⟨7, 0, 0, []⟩ = none ∧ (demo.getDriver ⟨2, 0, 0, []⟩).isSome = true := by
  decide

/-- **Enumeration.** The enumerated identifiers are exactly the described devices of the loaded
libraries, tagged with the slot of their library as `driver_id`. -/
theorem C12_enumeration (libs : List LibState) (e : Entry) :
    e ∈ (Manager.init libs).identifiers ↔
      ∃ slot d i, libs[slot]? = some (.loaded d) ∧ i < d.count ∧ e = mkEntry slot d i :=
  mem_init_identifiers

example : demo.identifiers.map (·.ident.driverId) = [0, 0, 0, 0, 0, 0, 0, 2] := by decide

/-! ## 7. opening an enumerated identifier yields a device of that kind and name -/

/-- **Open agrees with enumeration.** If every loaded driver is faithful (describes each index
below its count, reporting that index as `device_id`, and opens it) then every enumerated
identifier was enumerated successfully and opening it (`get_driver`, `driver_open_device`)
yields a device with the same kind, name and device id. -/
theorem C12_open_agrees (libs : List LibState) (hf : ∀ d, LibState.loaded d ∈ libs → d.Faithful)
    (e : Entry) (he : e ∈ (Manager.init libs).identifiers) :
    e.ok = true ∧ ∃ o, (Manager.init libs).openIdent e.ident = .ok o ∧
      o.kind = e.ident.kind ∧ o.name = e.ident.name ∧ o.deviceId = e.ident.deviceId := by
  obtain ⟨slot, d, i, hs, hi, rfl⟩ := mem_init_identifiers.1 he
  obtain ⟨h1, h2, h3⟩ := hf d (List.mem_iff_getElem?.2 ⟨slot, hs⟩) i hi
  refine ⟨h1, (d.describe i).2, ?_, rfl, rfl, rfl⟩
  unfold Manager.openIdent
  rw [getDriver_init]
  simp only [mkEntry, hs, driverLoad, driverOpenDevice, h2, h3, h1, if_true]

/-- **The real common driver, row by row** (the table is regenerated from the source and executed
on every run, so `decide` over it is a proof about today's `basics.driver.c`): every index
below `device_count` is described with `device_id = index`, a non-empty NUL-free name that fits
the identifier, opens, is re-described into the opened device with the same kind, name and id,
and closes; indices from `device_count` on are rejected by `describe` and `open`; the rows cover
`0 .. device_count-1` in order. -/
theorem C12_common_table_open_agrees :
    (∀ r, r ∈ DeviceTable.rows → r.index < DeviceTable.deviceCount →
        r.descOk = true ∧ r.deviceId = r.index ∧ r.name ≠ [] ∧ r.name.all (· != 0) = true ∧
        r.name.length < DeviceTable.nameCapacity ∧
        r.openOk = true ∧ r.oDescOk = true ∧ r.oKind = r.kind ∧ r.oName = r.name ∧ r.oDeviceId = r.deviceId ∧
        r.closeOk = true) ∧
    (∀ r, r ∈ DeviceTable.rows → DeviceTable.deviceCount ≤ r.index → r.descOk = false ∧ r.openOk = false) ∧
    (DeviceTable.rows.map (·.index)).take DeviceTable.deviceCount = List.range DeviceTable.deviceCount ∧
    (∃ r, r ∈ DeviceTable.rows ∧ DeviceTable.deviceCount ≤ r.index) := by
  decide

/-- the model's common driver (built from the table) is faithful -/
theorem C12_common_driver_faithful : commonDriver.Faithful := by
  unfold Driver.Faithful
  decide

example : ∀ e, e ∈ demo.identifiers → e.ok = true ∧ ∃ o, demo.openIdent e.ident = .ok o ∧ o.kind = e.ident.kind ∧ o.name = e.ident.name := by
  intro e he
  have hf : ∀ d, LibState.loaded d ∈ demoLibs → d.Faithful := by
    intro d hd
    simp only [demoLibs, List.mem_cons, List.not_mem_nil, or_false, reduceCtorEq, false_or] at hd
    cases hd with
    | inl h => cases h; exact C12_common_driver_faithful
    | inr h => cases h; unfold Driver.Faithful; decide
  obtain ⟨h1, o, h2, h3, h4, _⟩ := C12_open_agrees demoLibs hf e he
  exact ⟨h1, o, h2, h3, h4⟩

/-! ## 8. layer 2: whole name, case-insensitive -/

/-- **The matcher decides the language**: for the subset {literal, `.`, class, `* + ?`,
alternation, group, escape} the derivative matcher accepts `s` iff `s` — the whole string — is
in the inductively defined language of the pattern (ASCII case folding built into the atoms). -/
theorem C12_matcher_correct (r : Re) (s : Bytes) : matchesRe r s = true ↔ Matches r s :=
  matchesRe_iff r s

example : matchesRe (.cat (.star .any) (.cat (Re.lit [114, 97, 110, 100]) (.star .any))) [85, 32, 82, 65, 78, 68, 111, 109] = true := by decide
example : matchesRe (.cat (.chr 97) ((Re.cls false [.range 48 57]).plus)) [65, 49, 50] = true ∧
          matchesRe (.cat (.chr 97) ((Re.cls false [.range 48 57]).plus)) [65] = false := by decide

/-- **Whole name, case-insensitive.** (a) subjects that differ only in ASCII case are matched
alike by every pattern; (b) a literal pattern matches exactly the case variants of the whole
string — never a proper substring or superstring. -/
theorem C12_whole_name_case_insensitive :
    (∀ (r : Re) (s t : Bytes), s.map toLower = t.map toLower → (Matches r s ↔ Matches r t)) ∧
    (∀ w s : Bytes, Matches (Re.lit w) s ↔ s.map toLower = w.map toLower) :=
  ⟨fun r _ _ h => Matches.fold_iff r h, lit_iff⟩

example : Matches (Re.lit [114, 97, 119]) [82, 97, 87] := (lit_iff _ _).2 (by decide)          -- "raw" ~ "RaW"
example : ¬ Matches (Re.lit [114, 97, 119]) [114, 97, 119, 114] := fun h => by                  -- "raw" !~ "rawr"
  have := (lit_iff _ _).1 h; revert this; decide

/-- **Selection with a subset pattern.** With the proved matcher as the engine,
`device_manager_select` with a non-empty NUL-free name returns `Ok d` exactly when `d` is the
first enumerated identifier of the kind whose whole name lies in the language of the pattern,
and `Err` exactly when there is none. -/
theorem C12_select_regex (m : Manager) (kind : Nat) (bs : Bytes) (r : Re) (hne : bs ≠ [])
    (hnul : ∀ b, b ∈ bs → b ≠ 0) (d : Ident) :
    (m.select kind (.buf bs) (reEngine r) = .ok d ↔
      IsFirst m (fun e => e.ident.kind = kind ∧ Matches r e.ident.name) d) ∧
    (m.select kind (.buf bs) (reEngine r) = .err ↔
      ∀ e, e ∈ m.identifiers → ¬ (e.ident.kind = kind ∧ Matches r e.ident.name)) := by
  have hp : ∀ e : Entry, accepts kind (stdName (.buf bs)) (matchesRe r) e = true ↔
      e.ident.kind = kind ∧ Matches r e.ident.name := by
    intro e
    rw [accepts_iff, stdName_nulfree hnul, matchesRe_iff, or_iff_right hne]
  rw [select_buf]
  exact ⟨selectCore_ok_iff m kind _ (reEngine r) _ rfl hp d, selectCore_err_iff m kind _ (reEngine r) _ rfl hp⟩

-- "TRASH" (mock, slot 2) also matches `trash`, but the common driver's "trash" is enumerated first
example : demo.select 2 (.buf trash) (reEngine (Re.lit trash)) = demo.get 5 ∧
          matchesRe (Re.lit trash) [84, 82, 65, 83, 72] = true := by decide

end AcqVerif.C12
