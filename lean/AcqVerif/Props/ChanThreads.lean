import AcqVerif.Channel.ConcStep
import AcqVerif.Props.C01
import AcqVerif.Props.C02
/-!
# C01 / C02 under threads

`Props/C01.lean` and `Props/C02.lean` quantify over histories of *atomic* channel calls.  The calls of
`channel.c` are not atomic: `channel_write_map` sleeps in `condition_variable_wait` in the middle of its
body and re-evaluates `next_write` after every wake-up, while readers and the refuser run.  The
interleaving model `Channel.Conc` (one step = what a thread does between two synchronisation calls; tied
to the real code by the co-simulation on the deterministic scheduler) covers exactly that.  The theorems
here say that threads add nothing: **every state of every schedule of every single-writer program is a
state some well-formed sequential history reaches** — so every C01 / C02 theorem applies to it — and
the region a writer is handed *after having slept* is as disjoint from the readers as one handed at once.
-/
namespace AcqVerif.ChanThreads
open AcqVerif AcqVerif.Channel

variable {cap : Nat} {cs : CState}

/-- every state of every schedule is reachable by a well-formed history of atomic calls -/
theorem every_schedule_is_a_history (r : CReach cap cs) : ∃ g, Reachable cap cs.sys g :=
  r.inv.sysok

/-- **C01.3 under threads** — whatever the schedule, the bytes reader `i` has consumed so far are exactly the
stream positions `join i … idx i − 1` in order -/
theorem consumed_is_stream (r : CReach cap cs) (i : Nat) (hi : i < cs.sys.rds.length) :
    ∃ g : Ghost, nth g.seen i = (List.range' (nth cs.sys.join i) (nth cs.sys.idx i - nth cs.sys.join i)).map some ∧
      nth cs.sys.idx i ≤ cs.sys.total := by
  obtain ⟨g, hg⟩ := r.inv.sysok
  have := C01.consumed_is_stream hg i hi
  exact ⟨g, this.1, this.2.2.1⟩

/-- **C01 under threads** — in no schedule does a reader's status leave `Channel_Ok` -/
theorem status_stays_ok (r : CReach cap cs) (i : Nat) (hi : i < cs.sys.rds.length) :
    (nth cs.sys.rds i).status = 0 := by
  obtain ⟨g, hg⟩ := r.inv.sysok
  exact C01.status_stays_ok hg i hi

/-- **C02 under threads** — the body a thread runs when it gets (or gets back, after a sleep) the lock is one
atomic `step` on the current state; if it hands the writer a region, that region lies inside the buffer.
(`woken` is the case the sequential model cannot express: the placement is computed from the state *after*
the sleep, not from anything remembered from before it.) -/
theorem write_region_in_buffer (r : CReach cap cs) (n beg : Nat)
    (hw : (step cs.sys (.wmap n)).2 = .wok beg) : beg + n ≤ cap := by
  obtain ⟨g, hg⟩ := r.inv.sysok
  exact C02.write_region_in_buffer hg n beg hw

/-- the state a woken (or first-time) writer leaves behind is `step` of the state it found: nothing is carried
over a sleep except the request itself -/
theorem woken_body_is_step (t : Nat) (m : Nat) (rest : List Op) (cs' : CState)
    (hth : cs.threads[t]? = some { pc := .woken, prog := .wmap m :: rest })
    (e : cstep cs t = some cs') :
    cs'.sys = cs.sys ∨ cs'.sys = (step cs.sys (.wmap m)).1 := by
  simp only [cstep, hth] at e
  split at e <;> cases e
  rcases runBody_cases cs t (.wmap m) rest with ⟨_, _, _, e3⟩ | ⟨_, e3⟩ | ⟨_, e3⟩ <;> rw [e3]
  · exact .inl rfl
  · exact .inr rfl
  · exact .inr rfl

end AcqVerif.ChanThreads
