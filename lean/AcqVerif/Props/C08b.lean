import AcqVerif.Control.Inv
/-!
# C08 (control plane) — devices see a disciplined life cycle under any sequence of API calls

Model: M2 (`AcqVerif.Control`): `acquire_configure` with per-stream devices (or none), identifier changes between calls, opens
and camera starts that fail as an oracle says, `acquire_start` (also while running, also failing), `acquire_stop`,
`acquire_abort`, `acquire_execute_trigger`, `acquire_get_state`, `acquire_shutdown` — as one transition per API call that appends
the driver calls it causes to a log.  The data-path half (who calls the driver in which HAL state while the worker threads run,
the worker flags behind `acquire_get_state`) is `Props/C08.lean` over M1.

Quantifiers: every theorem is for ALL client programs (`List Op`, any length), ALL device pools `P` (which stream a device may be
given to and whether it is a camera or a storage; the per-stream pools are disjoint by construction), ALL device choices the
programs make from them, ALL oracles (which opens and which camera starts fail), and — through the `fin` argument of `start` /
`state` — all moments at which the workers of an acquisition may have finished.  A call that violates the usage rules at the point
where it is made (`guard`: something after shutdown; `acquire_configure` while Running or with a device outside the stream's pool)
is skipped, i.e. the quantifier ranges over the programs that respect the rules (`WF`), with everything else arbitrary.

`after P orc prog` is the state after `acquire_init` and the program; `proj log d n` are the driver calls on instance `n` (the
`n`-th successful open, with the failed attempts before it) of device `d`, in order.
-/
namespace AcqVerif.C08b
open AcqVerif.Control

/-- the state after `acquire_init()` and the client program -/
def after (P : Pools) (orc : Oracle) (prog : List Op) : State := run P (init orc) prog

theorem after_snoc (P : Pools) (orc : Oracle) (prog : List Op) (op : Op) :
    after P orc (prog ++ [op]) = (step P (after P orc prog) op).1 := by
  unfold after
  rw [run_append]
  rfl

theorem after_inv (P : Pools) (orc : Oracle) (prog : List Op) : Inv P (after P orc prog) :=
  run_inv prog (init_inv P orc)

/-- (1) **the life cycle**: for every program, pools, oracle, device and instance, what the driver has seen of that instance is a
prefix of `openFail* open (set | start stop | startFail)* close` with `set`/`close` only while not Running, `start` only when
Armed, `stop` only when Running — and the automaton is in the phase the runtime's own state describes: not yet opened, open in
the slot the pool assigns with exactly the handle's HAL state, or closed. -/
theorem device_life_cycle (P : Pools) (orc : Oracle) (prog : List Op) (d : Dev) (n : Nat) :
    Accepts (proj (after P orc prog).log d n) ∧
    runA .fresh (proj (after P orc prog).log d n) = some (phaseOf P (after P orc prog) d n) :=
  ⟨⟨_, (after_inv P orc prog).inv0.life d n⟩, (after_inv P orc prog).inv0.life d n⟩

/-- (2) an instance is opened at most once and closed at most once, and closed only if it was opened -/
theorem opened_at_most_once_closed_at_most_once (P : Pools) (orc : Oracle) (prog : List Op) (d : Dev) (n : Nat) :
    (proj (after P orc prog).log d n).count .open ≤ 1 ∧
    (proj (after P orc prog).log d n).count .close ≤ (proj (after P orc prog).log d n).count .open := by
  have c := runA_counts (device_life_cycle P orc prog d n).2
  generalize phaseOf P (after P orc prog) d n = q at c
  cases q <;> simp [isOpened, isClosed] at c <;> omega

/-- (3) **never used after close**: no driver call on an instance follows its close; the close comes after the open and not
between a start and its stop -/
theorem nothing_after_close (P : Pools) (orc : Oracle) (prog : List Op) (d : Dev) (n : Nat) (pre post : List Act)
    (e : proj (after P orc prog).log d n = pre ++ .close :: post) :
    post = [] ∧ pre.count .open = 1 ∧ pre.count .start = pre.count .stop :=
  ⟨(device_life_cycle P orc prog d n).1.nothing_after_close e, (device_life_cycle P orc prog d n).1.close_after_open e⟩

/-- (4) **started only when armed**: the driver's `start` (successful or failing) is reached only on an Armed instance — the
instance's previous driver call is a successful `set` or the `stop` that ended its previous run -/
theorem started_only_when_armed (P : Pools) (orc : Oracle) (prog : List Op) (d : Dev) (n : Nat) (pre post : List Act) (a : Act)
    (ha : a = .start ∨ a = .startFail) (e : proj (after P orc prog).log d n = pre ++ a :: post) :
    runA .fresh pre = some (.opened .armed) ∧ ∃ pre', pre = pre' ++ [.set] ∨ pre = pre' ++ [.stop] :=
  (device_life_cycle P orc prog d n).1.start_only_armed ha e

/-- (5) **stopped exactly once per start, no stop without start**: the instance's driver call before a `stop` is its `start`;
the one after a successful `start`, if any, is the `stop`; and there are as many stops as starts, plus the outstanding one
exactly while the instance's HAL state is Running -/
theorem stopped_exactly_once_per_start (P : Pools) (orc : Oracle) (prog : List Op) (d : Dev) (n : Nat) :
    (∀ pre post, proj (after P orc prog).log d n = pre ++ .stop :: post → ∃ pre', pre = pre' ++ [.start]) ∧
    (∀ pre post, proj (after P orc prog).log d n = pre ++ .start :: post → post = [] ∨ ∃ post', post = .stop :: post') ∧
    (proj (after P orc prog).log d n).count .start =
      (proj (after P orc prog).log d n).count .stop + isRunning (phaseOf P (after P orc prog) d n) :=
  ⟨fun _ _ e => (device_life_cycle P orc prog d n).1.stop_after_start e,
   fun _ _ e => (device_life_cycle P orc prog d n).1.start_then_stop e,
   runA_balance (device_life_cycle P orc prog d n).2⟩

/-- (6) whenever the runtime does not report Running — after `stop`, `abort`, a failed `start`, a `configure`, an
`acquire_get_state` that found the workers gone, `shutdown` — every start of every instance has been answered by its stop, and
no open device is in HAL state Running -/
theorem none_left_running_when_not_Running (P : Pools) (orc : Oracle) (prog : List Op)
    (h : (after P orc prog).rstate ≠ .running) :
    (∀ d n, (proj (after P orc prog).log d n).count .start = (proj (after P orc prog).log d n).count .stop) ∧
    (∀ i k hd, (after P orc prog).slot i k = some hd → hd.hal ≠ .running) := by
  have nr := (after_inv P orc prog).nr h
  refine ⟨fun d n => ?_, nr⟩
  rw [(stopped_exactly_once_per_start P orc prog d n).2.2, isRunning, if_neg (nr.phase d n)]
  rfl

/-- (7) **closed exactly once, by shutdown at the latest**: after a program in which `acquire_shutdown` has been called, the
runtime holds no device, and every instance that was ever opened has been opened once and closed once (whether its stream was
valid, disabled by a later configure, or left half-configured by a failed open) -/
theorem shutdown_closes_every_opened_instance (P : Pools) (orc : Oracle) (prog rest : List Op) :
    (∀ i k, (after P orc (prog ++ .shutdown :: rest)).slot i k = none) ∧
    ∀ d n, .open ∈ proj (after P orc (prog ++ .shutdown :: rest)).log d n →
      (proj (after P orc (prog ++ .shutdown :: rest)).log d n).count .open = 1 ∧
      (proj (after P orc (prog ++ .shutdown :: rest)).log d n).count .close = 1 := by
  have hi := after_inv P orc (prog ++ .shutdown :: rest)
  have hs := hi.cl (run_shutdown P _ prog rest)
  refine ⟨hs, fun d n ho => ?_⟩
  have c := runA_counts (hi.inv0.life d n)
  have hpos := List.count_pos_iff.mpr ho
  rcases phaseOf_no_slots (P := P) hs d n with hp | hp <;> rw [hp] at c <;> simp [isOpened, isClosed] at c <;> omega

/-- (8) **a device is open in at most one place**: two slots (stream × camera/storage) never hold the same device, and an open
device is always the latest instance of that device -/
theorem device_open_in_at_most_one_stream (P : Pools) (orc : Oracle) (prog : List Op) (i i' : Sid) (k k' : Kind) (h h' : Handle)
    (e : (after P orc prog).slot i k = some h) (e' : (after P orc prog).slot i' k' = some h') (hd : h.dev = h'.dev) :
    i = i' ∧ k = k' ∧ h = h' := by
  have o := (after_inv P orc prog).inv0.own i k h e
  have o' := (after_inv P orc prog).inv0.own i' k' h' e'
  have hi : i = i' := by rw [← o.1, ← o'.1, hd]
  have hk : k = k' := by rw [← o.2.1, ← o'.2.1, hd]
  subst hi; subst hk
  rw [e] at e'
  exact ⟨rfl, rfl, Option.some.inj e'⟩

/-- (9) **the reported state is what the code computes**, per call (made within the usage rules, from any state):
`stop`/`abort` → Armed; `start` → Running if it succeeds, and if it fails either AwaitingConfiguration (error path) or — refused
because an acquisition is running whose workers are still alive — nothing changes; `configure` → Armed if some stream is
valid, else AwaitingConfiguration; `acquire_get_state` → Armed instead of Running once the workers are gone, otherwise the
stored state; `trigger` changes nothing; `shutdown` → Closed. -/
theorem reported_state_is_what_the_code_computes (P : Pools) (st : State) (op : Op) (hg : guard P st op = true) :
    match op with
    | .stop => (step P st op).1.rstate = .armed ∧ (step P st op).2 = .ok
    | .abort => (step P st op).1.rstate = .armed ∧ (step P st op).2 = .ok
    | .start fin =>
        ((step P st op).2 = .ok → (step P st op).1.rstate = .running) ∧
        ((step P st op).2 ≠ .ok → (step P st op).2 = .err ∧
          ((step P st op).1.rstate = .awaiting ∨ ((step P st op).1 = st ∧ st.rstate = .running ∧ fin = false)))
    | .configure _ _ =>
        (step P st op).2 = .ok ∧
        (((step P st op).1.valid .s0 = true ∨ (step P st op).1.valid .s1 = true) ∧ (step P st op).1.rstate = .armed ∨
         ((step P st op).1.valid .s0 = false ∧ (step P st op).1.valid .s1 = false) ∧ (step P st op).1.rstate = .awaiting)
    | .state fin =>
        (step P st op).1.rstate = (if st.rstate = .running ∧ fin = true then .armed else st.rstate) ∧ (step P st op).2 = .ok
    | .trigger _ => (step P st op).1 = st
    | .shutdown => (step P st op).1.rstate = .closed ∧ (step P st op).2 = .ok := by
  unfold step
  rw [if_pos hg]
  cases op with
  | stop => exact ⟨rfl, rfl⟩
  | abort => exact ⟨rfl, rfl⟩
  | trigger i => rfl
  | shutdown => exact ⟨rfl, rfl⟩
  | state fin =>
    refine ⟨?_, rfl⟩
    simp only [api]
    unfold acquireGetState
    split <;> rfl
  | configure c0 c1 =>
    simp only [Control.guard, Bool.and_eq_true, bne_iff_ne, ne_eq] at hg
    refine ⟨rfl, ?_⟩
    simp only [api, acquireConfigure]
    unfold configureFinish
    split
    · rename_i hv
      exact Or.inl ⟨by simpa using hv, by simp [hg.1.1.2]⟩
    · rename_i hv
      exact Or.inr ⟨by simpa [acquireAbort, acquireStop] using hv, rfl⟩
  | start fin =>
    simp only [api]
    rcases acquireStart_res st fin with ⟨ok, hr⟩ | ⟨er, h⟩
    · exact ⟨fun _ => hr, fun c => absurd ok c⟩
    · exact ⟨fun c => absurd c (by simp [er]), fun _ => ⟨er, h⟩⟩

/-- (10) **Running only between a successful start and the call that ends that acquisition**: if after a program the runtime
reports Running then the program contains an `acquire_start` that returned Ok, the runtime has reported Running after every
call since, and none of those later calls is a stop, an abort or a shutdown. -/
theorem running_only_between_successful_start_and_its_end (P : Pools) (orc : Oracle) (prog : List Op)
    (h : (after P orc prog).rstate = .running) :
    ∃ pre fin post, prog = pre ++ .start fin :: post ∧ (step P (after P orc pre) (.start fin)).2 = .ok ∧
      (∀ post1 post2, post = post1 ++ post2 → (after P orc (pre ++ .start fin :: post1)).rstate = .running) ∧
      (∀ op, op ∈ post → op ≠ .stop ∧ op ≠ .abort ∧ op ≠ .shutdown) := by
  induction prog using snoc_induction with
  | nil => simp [after, run, init] at h
  | snoc prog op ih =>
    -- the last call is that start, or it has changed nothing and the rest of the program is as it was
    rw [after_snoc] at h
    rcases step_running h with ⟨hr, _⟩ | ⟨fin, rfl, hok⟩
    · obtain ⟨pre, fin, post, rfl, hok, hall, hno⟩ := ih hr
      refine ⟨pre, fin, post ++ [op], by simp, hok, fun p1 p2 e => ?_, fun o ho => ?_⟩
      · rcases List.eq_nil_or_concat p2 with rfl | ⟨p2', x, rfl⟩
        · rw [List.append_nil] at e
          rw [← e, ← List.cons_append, ← List.append_assoc, after_snoc]
          exact h
        · rw [List.concat_eq_append, ← List.append_assoc] at e
          exact hall p1 p2' (List.append_inj' e rfl).1
      · rcases List.mem_append.mp ho with ho | ho
        · exact hno o ho
        · cases List.mem_singleton.mp ho
          refine ⟨?_, ?_, ?_⟩ <;> intro c <;> subst c <;>
            simp [step, Control.guard, hr, api, acquireStop, acquireAbort, acquireShutdown] at h
    · refine ⟨prog, fin, [], rfl, hok, fun p1 p2 e => ?_, by simp⟩
      cases (List.append_eq_nil_iff.mp e.symm).1
      rw [after_snoc]
      exact h

/-- (11) **Running means an acquisition is in progress**: whenever the runtime reports Running, some stream is valid and the camera
and the storage of every valid stream are open and started (HAL state Running: the model has not yet seen their workers' stop) -/
theorem running_means_devices_started (P : Pools) (orc : Oracle) (prog : List Op) (h : (after P orc prog).rstate = .running) :
    ((after P orc prog).valid .s0 = true ∨ (after P orc prog).valid .s1 = true) ∧
    ∀ i, (after P orc prog).valid i = true → ∀ k, ∃ hd, (after P orc prog).slot i k = some hd ∧ hd.hal = .running :=
  run_runok (P := P) prog (st := init orc) (fun c => by simp [init] at c) h

/-- (12) the usage rules as a decidable predicate on programs (`WF`: each call's `guard` holds where it is made): in a program
that satisfies it no call is skipped, so for such programs the theorems above speak about every call -/
theorem wellformed_program_never_skipped (P : Pools) (orc : Oracle) (prog : List Op) (h : WF P (init orc) prog = true) :
    Res.illformed ∉ results P (init orc) prog :=
  wf_results h

/-! ## Non-vacuity: a concrete program with a device switch on stream 0, stream 1 disabled by the second configure, an open that
fails, a camera start that fails, a start while running — respecting the usage rules — and what the theorems say about it. -/

set_option maxRecDepth 100000

/-- the mock driver's devices: cameras 0, 1, 4; storages 2, 3, 5; stream 1 owns camera 1 and storage 3 -/
def P0 : Pools := ⟨fun d => if d = 1 ∨ d = 3 then .s1 else .s0, fun d => if d = 2 ∨ d = 3 ∨ d = 5 then .sto else .cam⟩

/-- storage 5 is busy once; camera 1 fails to start once -/
def orc0 : Oracle := ⟨fun d => if d = 5 then [true] else [], fun d => if d = 1 then [true] else []⟩

def prog0 : List Op :=
  [.configure (some (0, 2)) (some (1, 3)), .start false, .state false, .stop,
   .configure (some (0, 2)) (some (1, 3)), .start false, .start false, .state false, .abort,
   .configure (some (4, 5)) none, .start false, .configure (some (4, 5)) none, .start false]

example : WF P0 (init orc0) prog0 = true := by decide
example : WF P0 (init orc0) (prog0 ++ [.stop, .shutdown]) = true := by decide
/-- the first start fails in camera 1's driver: error path -/
example : (after P0 orc0 (prog0.take 2)).rstate = .awaiting := by decide
/-- the second one succeeds, the third is refused -/
example : (after P0 orc0 (prog0.take 8)).rstate = .running := by decide
example : (step P0 (after P0 orc0 (prog0.take 6)) (.start false)).2 = .err := by decide
/-- storage 5's open fails: no stream valid, AwaitingConfiguration; the retry succeeds -/
example : (after P0 orc0 (prog0.take 10)).rstate = .awaiting := by decide
example : (after P0 orc0 prog0).rstate = .running := by decide
example : results P0 (init orc0) prog0 = [.ok, .err, .ok, .ok, .ok, .ok, .err, .ok, .ok, .ok, .err, .ok, .ok] := by decide
example : (after P0 orc0 prog0).valid .s0 = true ∧ (after P0 orc0 prog0).valid .s1 = false := by decide
/-- camera 0, first instance: closed by the device switch -/
example : proj (after P0 orc0 prog0).log 0 1 = [.open, .set, .start, .stop, .set, .start, .stop, .close] := by decide
/-- camera 1: the failed start; still open (stream 1 disabled) until shutdown -/
example : proj (after P0 orc0 prog0).log 1 1 = [.open, .set, .startFail, .set, .start, .stop] := by decide
example : proj (after P0 orc0 (prog0 ++ [.stop, .shutdown])).log 1 1 = [.open, .set, .startFail, .set, .start, .stop, .close] := by decide
/-- storage 5: a failed open, then the instance -/
example : proj (after P0 orc0 (prog0 ++ [.stop, .shutdown])).log 5 1 = [.openFail, .open, .set, .start, .stop, .close] := by decide
/-- camera 4 is running at the end of `prog0` -/
example : phaseOf P0 (after P0 orc0 prog0) 4 1 = .opened .running := by decide
/-- a call outside the usage rules is skipped: configure while Running -/
example : (step P0 (after P0 orc0 prog0) (.configure none none)).2 = .illformed := by decide

end AcqVerif.C08b
