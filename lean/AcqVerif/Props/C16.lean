import AcqVerif.Storage.HalInv
/-!
# C16 — storage I/O failures are contained and reported; only owned descriptors are used

Model: `AcqVerif/Storage/{Os,FileWrite,Raw,TiffIo,Sxs,Hal}.lean` — the four storage devices
(raw, tiff, tiff-json, trash; repaired as in fixes/13, fixes/14, fixes/15) behind the HAL state
machine of `storage.c`, over an OS whose every `open`/`flock`/`pwrite`/`close`/`mkdir` may fail
or come up short as an arbitrary oracle `Nat → Outcome` says (any call index, once or for ever)
and whose `open` returns an arbitrary descriptor that is not currently open (`pick`).

All theorems quantify over every device kind, every history (`List Op`: set / start / append /
stop / close in any order and number — calls after `close` and `set` while Running are skipped,
see `Op.wf`), every oracle and every choice of descriptors.
-/
namespace AcqVerif.C16
open AcqVerif.Storage

/-- the invariant plus: the whole trace so far respects the descriptor discipline and leaves
    exactly the descriptors of the table owned -/
def Good (s : Sys) : Prop := Inv s ∧ ownRun [] s.os.log = some s.os.fdKeys

theorem good_init (k : Kind) (oracle : Nat → Outcome) (pick : Nat → Fd) : Good (Sys.init k oracle pick) := by
  refine ⟨⟨?_, fun _ => rfl⟩, rfl⟩
  cases k <;> simp [Sys.init, Dev.init, DevInv, Os.fdKeys]

theorem good_step (s : Sys) (op : Op) (h : Good s) : Good (step s op).1 := by
  obtain ⟨hinv, seg, hl, ho⟩ := step_ok s op h.1
  refine ⟨hinv, ?_⟩
  rw [hl, ownRun_append, h.2]
  exact ho

theorem good_run (k : Kind) (oracle : Nat → Outcome) (pick : Nat → Fd) (ops : List Op) :
    Good (run k oracle pick ops) := runFrom_inv (fun s op _ => good_step s op) (good_init k oracle pick)

/-- **Termination.**  Every device function is a total Lean function (no `partial`, no fuel): the only
    loop, the retry loop of `file_write`, terminates by the measure `remaining + (3 - retries)`,
    and the repaired TIFF error path has no recursion (`stop` calls `write_` once, `write_` calls
    nothing).  As a checked statement: every HAL call returns, and one `file_write` issues at most
    `|buf| + 3` system calls whatever the oracle does. -/
theorem C16_total (s : Sys) (op : Op) : ∃ s' st, step s op = (s', st) := ⟨_, _, rfl⟩

theorem C16_file_write_bounded (os : Os) (fd off : Nat) (buf : Bytes) :
    ∃ seg, (fileWrite os fd off buf).1.log = os.log ++ seg ∧ seg.length ≤ buf.length + 3 := by
  obtain ⟨seg, hl, _, _, _, hb⟩ := fileWrite_log os fd off buf
  exact ⟨seg, hl, hb⟩

/-- **Only owned descriptors, each closed exactly once.**  Over the whole life of a device — any
    history, closed at the end — the trace of system calls passes the ownership automaton
    (`ownRun`: every `pwrite`, `flock`, `close` names a descriptor that an earlier `open` of this
    device returned and that has not been closed since; `open` never returns a descriptor still
    owned) and ends with nothing owned: every descriptor the device opened was closed, once. -/
theorem C16_owned_descriptors_only (k : Kind) (oracle : Nat → Outcome) (pick : Nat → Fd) (ops : List Op) :
    ownRun [] (run k oracle pick (ops ++ [.close])).os.log = some [] := by
  have hg := good_run k oracle pick (ops ++ [.close])
  rw [hg.2, hg.1.2]
  simp only [run, runFrom_append, runFrom, step]
  split
  · rename_i h
    simpa [Op.wf] using h
  · rfl

/-- non-vacuity: the tiff writer through its whole life with a failing header write (call 4) really
    opens descriptors (the probe of `set`, then the file), writes, and closes each once -/
example : (run .tiff (fun n => if n = 4 then .fail else .full) (fun _ => 3)
    ([.set [97, 0] [], .start] ++ [.close])).os.log =
    [.open [97] (some 3), .close 3 true, .unlink [97], .open [97] (some 3), .flock 3 true, .pwrite 3 0 16 none,
     .close 3 true] := by
  simp [run, runFrom, step, Sys.init, Dev.init, Op.wf, storageSet, storageStart, storageClose, storageStop, Dev.set,
    Dev.start, Dev.destroy, Dev.state, Dev.setState, tiffSet, tiffStart, Tiff.start, tiffDestroy, tiffStop,
    Tiff.stop, fileIsWritable, fileCreate, fileWrite, fileClose, fileWriteLoop, sysOpen, sysClose, sysUnlink, sysFlock,
    sysPwrite, Os.exists, uriOffset, cstr, allocFd, Os.fdKeys, pwriteCount, setFile, Os.content, filePrefix, zeros,
    tiffHeaderBytes, List.lookup]

/-- and the automaton does reject the traces of the unrepaired code: closing descriptor 0 that was never
    opened, closing twice, writing after close -/
example : ownRun [] [.close 0 true] = none ∧
    ownRun [] [.open [97] (some 3), .close 3 true, .close 3 false] = none ∧
    ownRun [] [.open [97] (some 3), .close 3 true, .pwrite 3 0 8 none] = none ∧
    ownRun [] [.open [97] (some 3)] = some [3] := by decide

/-- the same at every moment: each prefix of the trace of any history is disciplined -/
theorem C16_every_prefix_disciplined (k : Kind) (oracle : Nat → Outcome) (pick : Nat → Fd) (ops : List Op)
    (pre post : List Ev) (h : (run k oracle pick ops).os.log = pre ++ post) : ∃ owned, ownRun [] pre = some owned := by
  have hg := (good_run k oracle pick ops).2
  rw [h] at hg
  exact ownRun_prefix hg

/-- what passing the automaton means for one call: a `pwrite` or `close` in a disciplined trace
    names a descriptor owned at that moment -/
theorem ownRun_call_owned (pre post : List Ev) (e : Ev) (fd : Fd) (o : List Fd)
    (h : ownRun [] (pre ++ e :: post) = some o)
    (he : (∃ off len r, e = .pwrite fd off len r) ∨ (∃ ok, e = .close fd ok) ∨ (∃ ok, e = .flock fd ok)) :
    ∃ owned, ownRun [] pre = some owned ∧ fd ∈ owned := by
  obtain ⟨owned, hp⟩ := ownRun_prefix h
  refine ⟨owned, hp, Decidable.byContradiction fun hm => ?_⟩
  rw [ownRun_append, hp] at h
  rcases he with ⟨off, len, r, rfl⟩ | ⟨ok, rfl⟩ | ⟨ok, rfl⟩ <;> simp [ownRun, ownStep, hm] at h

/-- a call other than `start` on a device that is not running leaves it so and issues no I/O -/
theorem idle_step (s : Sys) (op : Op) (hop : op ≠ .start) (hinv : Inv s) (hidle : s.dev.state ≠ .running)
    (hio : NoIo s.os.log) : (step s op).1.dev.state ≠ .running ∧ NoIo (step s op).1.os.log := by
  unfold step
  split
  · exact ⟨hidle, hio⟩
  · rename_i hwf
    have hc := Op.wf_open hwf
    cases op with
    | set uri md =>
      obtain ⟨_, hnr, seg, hl, hseg⟩ := set_ok s uri md hinv hc hidle
      exact ⟨hnr, by rw [hl]; exact hio.append hseg⟩
    | start => exact absurd rfl hop
    | append fs => simpa [storageAppend, hidle] using And.intro hidle hio
    | stop => simpa [storageStop, hidle] using And.intro hidle hio
    | close =>
      simp [storageClose, storageStop, hidle, Dev.state_setState, Dev.destroy_idle s.os s.dev hinv.1 hidle, hio]

/-- **A device that is never started issues no I/O**: in a history without `start` (set-only,
    open/close, any misuse) there is no `pwrite` and no `flock` at all — the only calls are the
    create–close–unlink probes of `set`, which `C16_owned_descriptors_only` shows to be owned. -/
theorem C16_never_started (k : Kind) (oracle : Nat → Outcome) (pick : Nat → Fd) (ops : List Op)
    (hns : ∀ op ∈ ops, op ≠ Op.start) : NoIo (run k oracle pick ops).os.log := by
  refine (runFrom_inv (P := fun s => Inv s ∧ s.dev.state ≠ .running ∧ NoIo s.os.log)
    (fun s op ho ⟨hinv, hidle, hio⟩ => ⟨(step_ok s op hinv).1, idle_step s op (hns op ho) hinv hidle hio⟩)
    ⟨(good_init k oracle pick).1, ?_, NoIo.nil⟩).2.2
  cases k <;> simp [Sys.init, Dev.init, Dev.state]

/-- non-vacuity: a set-only history does issue calls (the probe), none of them I/O -/
example : (run .raw (fun _ => .full) (fun _ => 3) [.set [97, 0] [], .close]).os.log
    = [.open [97] (some 3), .close 3 true, .unlink [97]] := by decide

/-- an append through the HAL: if the device is Running afterwards, or the call returned `Device_Ok`,
    then no `pwrite` in it failed and no `file_write` reported failure -/
theorem append_reported (s : Sys) (fs : List Frame) :
    let a := step s (.append fs)
    ∃ seg, a.1.os.log = s.os.log ++ seg ∧
      ((a.1.dev.state = .running ∨ a.2 = .ok) → NoFail seg ∧ a.1.os.wfails = s.os.wfails) := by
  unfold step
  split
  · exact ⟨[], by simp, fun _ => ⟨NoFail.nil, rfl⟩⟩
  · simp only
    unfold storageAppend
    split
    · exact ⟨[], by simp, fun _ => ⟨NoFail.nil, rfl⟩⟩
    · split
      · exact ⟨[], by simp, fun _ => ⟨NoFail.nil, rfl⟩⟩
      · obtain ⟨seg, hl, hk⟩ := Dev.append_reported s.os s.dev fs
        refine ⟨seg, hl, fun h => hk ?_⟩
        rcases h with h | h
        · rwa [Dev.state_setState] at h
        · exact Decidable.byContradiction fun hne => by simp [hne] at h

/-- **A write failure is reported.**  For every state of the system whatsoever and every packet:
    if any `pwrite` issued during `storage_append` returns an error, the device is not Running
    when the append returns and the HAL reports `Device_Err` (so the runtime stops the stream). -/
theorem C16_failure_is_reported (s : Sys) (fs : List Frame) :
    ∃ seg, (step s (.append fs)).1.os.log = s.os.log ++ seg ∧
      ((∃ e ∈ seg, e.isFailedPwrite = true) →
        (step s (.append fs)).1.dev.state ≠ .running ∧ (step s (.append fs)).2 ≠ .ok) := by
  obtain ⟨seg, hl, hk⟩ := append_reported s fs
  refine ⟨seg, hl, ?_⟩
  rintro ⟨e, he, hf⟩
  have bad : ¬NoFail seg := fun hn => by rw [hn e he] at hf; cases hf
  exact ⟨fun hr => bad (hk (.inl hr)).1, fun hr => bad (hk (.inr hr)).1⟩

/-- **Any write failure is reported** — in the code's own sense of "a write failed": `file_write`
    returned 0, be it for an error return of `pwrite` or because three `pwrite`s wrote nothing
    (the ghost counter `wfails` counts exactly these, `fileWrite_wfails`).  For every state and every
    packet: if `file_write` fails anywhere inside `storage_append`, the device is not Running when the
    append returns and the HAL reports `Device_Err`. -/
theorem C16_write_failure_is_reported (s : Sys) (fs : List Frame)
    (h : (step s (.append fs)).1.os.wfails ≠ s.os.wfails) :
    (step s (.append fs)).1.dev.state ≠ .running ∧ (step s (.append fs)).2 ≠ .ok := by
  obtain ⟨seg, _, hk⟩ := append_reported s fs
  exact ⟨fun hr => h (hk (.inl hr)).2, fun hr => h (hk (.inr hr)).2⟩

/-- non-vacuity: three `pwrite`s that write nothing exhaust the retry budget: no call returned an error,
    yet a write failure is counted, the device stops, closes its file and reports an error -/
example :
    let s : Sys := { os := { oracle := fun _ => .zero, pick := fun _ => 3, fds := [(3, [97])] },
                     dev := .raw { state := .running, isOpen := true, fid := 3 } }
    (step s (.append [{ bytes := [1] }])).1.os.log =
      [.pwrite 3 0 1 (some 0), .pwrite 3 0 1 (some 0), .pwrite 3 0 1 (some 0), .close 3 true] ∧
    (step s (.append [{ bytes := [1] }])).1.os.wfails = 1 ∧ (step s (.append [{ bytes := [1] }])).2 = .err := by
  simp [step, Op.wf, storageAppend, Dev.state, packetBytes, Dev.append, rawAppend, fileWrite, fileWriteLoop,
    sysPwrite, pwriteCount, rawStop, fileClose, sysClose, Dev.setState, Os.fdKeys, List.lookup]

/-- non-vacuity: a running raw device whose `pwrite` fails — the premise holds, the device stops and closes -/
example :
    let s : Sys := { os := { oracle := fun _ => .fail, pick := fun _ => 3, fds := [(3, [97])] },
                     dev := .raw { state := .running, isOpen := true, fid := 3 } }
    (step s (.append [{ bytes := [1] }])).1.os.log = [.pwrite 3 0 1 none, .close 3 false] ∧
    (step s (.append [{ bytes := [1] }])).2 = .err := by
  simp [step, Op.wf, storageAppend, Dev.state, packetBytes, Dev.append, rawAppend, fileWrite, fileWriteLoop,
    sysPwrite, pwriteCount, rawStop, fileClose, sysClose, Dev.setState, Os.fdKeys, List.lookup]

end AcqVerif.C16
