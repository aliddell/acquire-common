import AcqVerif.Filter.Bound
/-!
# C10 — frame averaging emits the exact mean of each window of consecutive frames

Model: `AcqVerif/Filter/Model.lean` (`process_data` / `video_filter_thread` of filter.c at frame
granularity, pixel sums as exact integers).  Specification: `AcqVerif/Filter/Spec.lean`.

Reading of the property at this layer.  The camera's frames reach the filter thread through its
input channel; one `channel_read_map` returns one batch.  Which batches the thread sees is the only
thing a schedule of source and filter decides, so "for every schedule" is "for every way of cutting
the input into batches" (`batching_independent`).  What the sink's channel receives is the list of
committed frames (`St.out`); the schedules of filter and sink are explored on the real runtime
(checks/c10.py, pipeline level).

Trusted base for "float mean" (floats are not modelled): an output frame with sums `s` and divisor
`d` stands for the float32 values `fl(fl(s) * fl(1/d))`.  IEEE-754 binary32 adds integers exactly
while every operand and result has absolute value ≤ 2^24, converts 8/16-bit samples exactly, and
`x *= 1.0f/k` is one correctly rounded division and one correctly rounded multiplication.
`partial_sums_exact_range` shows that every operand and every result of `x[i] += y[i]` is below
2^24 whenever `k * maxAbs < 2^24` (`integer_types_exact_window_sizes`: e.g. k ≤ 256 for u16,
k ≤ 65793 for u8).  Above that bound the C computes a rounded sum: the property does not hold
there, and nothing here claims it.
-/
namespace AcqVerif.C10
open AcqVerif.Filter

/-! ## (a) one frame per complete window, in order, exact sums, first id, f32; (b) one extra frame at most -/

/-- **Main theorem.** For every window size `k ≥ 2`, every input, every way of cutting it into
batches, every previous content of the ring memory — as long as the sink's channel takes every
call, no accumulator reset is signalled, all frames have the acquisition's shape and an integer
sample type — the filter thread terminates without error and what it has committed when it exits
is exactly `spec k input`: the windows of `k` consecutive frames, in order. -/
theorem averaging_emits_window_sums (k : Nat) (hk : 2 ≤ k) (sh : Shape) (bs : List Batch)
    (hreset : ∀ b ∈ bs, b.reset = false)
    (hclean : ∀ b ∈ bs, ∀ fe ∈ b.frames, Clean sh fe) :
    (thread k bs true).out = spec k (input bs) ∧ threadFailed k bs = false := by
  unfold thread threadFailed
  rw [threadLoop_noReset k St.init bs hreset, input_eq]
  have hall : ∀ fe ∈ bs.flatMap (·.frames), Clean sh fe := by
    intro fe hfe
    obtain ⟨b, hb, hfe'⟩ := List.mem_flatMap.mp hfe
    exact hclean b hb fe hfe'
  obtain ⟨h1, h2⟩ := framesLoop_spec k hk sh _ hall St.init rfl
  refine ⟨?_, by simp [h1]⟩
  simpa [St.init] using h2

/-- what `spec` is, window by window: frame `j` (for `j < n / k`) is built from
`input[j*k ..< j*k+k]`; if `k ∤ n` exactly one more frame follows, built from the last `n % k`
frames; nothing else. -/
theorem spec_explicit (k : Nat) (hk : 0 < k) (inp : List Frame) :
    spec k inp = (List.range (inp.length / k)).map (fun j => mkOut k ((inp.drop (j * k)).take k))
      ++ (if inp.length % k = 0 then [] else [mkOut k (inp.drop (inp.length / k * k))]) := by
  unfold spec
  rw [chunks_explicit hk]
  by_cases h : inp.length % k = 0 <;> simp [h, List.map_map, Function.comp_def]

/-- the frame built from a complete window `f :: rest`: id and shape of the window's FIRST frame,
sample type f32, divisor `k`, and pixel `i` = the sum of pixel `i` over the window's frames -/
theorem complete_window_frame (k : Nat) (f : Frame) (rest : List Frame) (hlen : (f :: rest).length = k)
    (hpix : ∀ g ∈ f :: rest, g.pix.length = f.shape.npx) :
    let o := mkOut k (f :: rest)
    o.id = f.id ∧ o.shape = f.shape ∧ o.ty = .f32 ∧ o.div = k ∧ o.sums.length = f.shape.npx ∧
    ∀ i, i < f.shape.npx → o.sums.getD i 0 = ((f :: rest).map fun g => g.pix.getD i 0).sum := by
  refine ⟨rfl, rfl, rfl, ?_, ?_, ?_⟩
  · simp only [mkOut, hlen, if_true]
  · exact sumWindow_length _ _ hpix
  · exact fun i _ => sumWindow_pointwise _ i _ hpix

/-- no input frame is skipped or counted twice: the windows behind the emitted frames, put end to
end, are the input; all of them except possibly the last have exactly `k` frames, and the number
of complete ones is `n / k` -/
theorem windows_partition_input (k : Nat) (hk : 0 < k) (inp : List Frame) :
    (chunks k inp).flatten = inp ∧
    (∀ c ∈ (chunks k inp).dropLast, c.length = k) ∧
    (∀ c ∈ chunks k inp, 0 < c.length ∧ c.length ≤ k) ∧
    ((chunks k inp).filter (fun c => c.length = k)).length = inp.length / k :=
  ⟨chunks_flatten k inp, chunks_incomplete_last inp, chunks_mem_length hk inp, chunks_complete_count hk inp⟩

/-- (b) the number of emitted frames is `n / k`, plus one iff a trailing incomplete window exists -/
theorem at_most_one_extra_frame (k : Nat) (hk : 0 < k) (inp : List Frame) :
    (spec k inp).length = inp.length / k + (if inp.length % k = 0 then 0 else 1) := by
  rw [spec_explicit k hk]
  by_cases h : inp.length % k = 0 <;> simp [h]

/-- the extra frame holds the plain sums of the trailing frames (it is committed by `Finalize`
without `normalize`) and carries the id of the first of them -/
theorem trailing_frame (k : Nat) (f : Frame) (rest : List Frame) (hlen : (f :: rest).length < k)
    (hpix : ∀ g ∈ f :: rest, g.pix.length = f.shape.npx) :
    let o := mkOut k (f :: rest)
    o.id = f.id ∧ o.ty = .f32 ∧ o.div = 1 ∧
    ∀ i, i < f.shape.npx → o.sums.getD i 0 = ((f :: rest).map fun g => g.pix.getD i 0).sum := by
  refine ⟨rfl, rfl, ?_, ?_⟩
  · have : ¬ (f :: rest).length = k := by omega
    simp only [mkOut, this, if_false]
  · exact fun i _ => sumWindow_pointwise _ i _ hpix

/-- batching independence: without accumulator resets, the thread's result on `bs` is its result
on the single batch holding all frames (for every environment, including refused maps, shape
changes and unsupported frames) -/
theorem batching_independent (k : Nat) (bs : List Batch) (hreset : ∀ b ∈ bs, b.reset = false) (fin : Bool) :
    thread k bs fin = thread k [{ frames := bs.flatMap (·.frames), reset := false }] fin ∧
    threadFailed k bs = threadFailed k [{ frames := bs.flatMap (·.frames), reset := false }] := by
  unfold thread threadFailed
  rw [threadLoop_noReset k St.init bs hreset,
    threadLoop_noReset k St.init [_] (by simp)]
  simp

/-! ## (c) the sums do not depend on what the ring memory held before -/

theorem independent_of_previous_contents (k : Nat) (bs bs' : List Batch) (g : Nat → Int) (fin : Bool)
    (h : bs.map (Batch.withOld g) = bs'.map (Batch.withOld g)) : thread k bs fin = thread k bs' fin := by
  unfold thread
  rw [← threadLoop_withOld k St.init bs g, ← threadLoop_withOld k St.init bs' g, h]

/-! ## (d) float32 accumulation stays in the range where it is exact -/

/-- Under ANY environment and batching: while the samples are bounded by `M` and `k * M < 2^24`,
every slot of the accumulator after every frame, and every slot of every committed frame, is an
integer of absolute value `< 2^24`; a mapped accumulator has summed fewer than `k` frames. -/
theorem partial_sums_exact_range (k M : Nat) (hk : 2 ≤ k) (hM : k * M < 2 ^ 24) (s : St) (h : Reach k M s) :
    (∀ a, s.acc = some a → s.frameCount < k ∧ ∀ x ∈ a.sums, x.natAbs < 2 ^ 24) ∧
    (∀ o ∈ s.out, ∀ x ∈ o.sums, x.natAbs < 2 ^ 24) := by
  have inv := h.inv hk
  refine ⟨fun a ha => ?_, fun o ho x hx => Nat.lt_of_le_of_lt (inv.outB o ho x hx) hM⟩
  obtain ⟨h2, h3⟩ := inv.accB a ha
  exact ⟨h2, fun x hx =>
    Nat.lt_of_le_of_lt (Nat.le_trans (h3 x hx) (Nat.mul_le_mul_right _ (Nat.le_of_lt h2))) hM⟩

/-- the states of the thread on any batches are `Reach`able (so the theorem above covers every
intermediate state: apply it to the batches cut off after any frame) -/
theorem thread_states_reachable (k M : Nat) (bs : List Batch) (fin : Bool)
    (hbs : ∀ b ∈ bs, ∀ fe ∈ b.frames, FrameBounded M fe.1) :
    Reach k M (threadLoop k St.init bs).1 ∧ Reach k M (thread k bs fin) :=
  ⟨Reach.init.threadLoop bs hbs, Reach.fin fin (Reach.init.threadLoop bs hbs)⟩

/-- window sizes for which the bound holds, per integer sample type -/
theorem integer_types_exact_window_sizes :
    kmax .u8 = 65793 ∧ kmax .i8 = 131071 ∧ kmax .u10 = 16400 ∧ kmax .u12 = 4097 ∧ kmax .u14 = 1024 ∧
    kmax .u16 = 256 ∧ kmax .i16 = 511 ∧
    (∀ ty k, ty.isInteger = true → k ≤ kmax ty → k * maxAbs ty < 2 ^ 24) ∧
    (∀ ty p, inRange ty p → p.natAbs ≤ maxAbs ty) :=
  ⟨by decide, by decide, by decide, by decide, by decide, by decide, by decide,
   fun _ _ hty hk => kmax_ok hty hk, fun _ _ h => inRange_natAbs h⟩

/-! ## the other branches, stated separately -/

/-- `channel_write_map` refused while no accumulator is mapped: the frame is skipped, the next
frame starts a window.  With clean frames after it, the rest is averaged as if it were the whole input. -/
theorem refused_map_skips_frame (k : Nat) (hk : 2 ≤ k) (sh : Shape) (s : St) (hs : s.acc = none)
    (fr : Frame) (e : FrameEnv) (he : e.ok = false) (rest : List (Frame × FrameEnv))
    (hrest : ∀ fe ∈ rest, Clean sh fe) :
    onFrame k s fr e = (s, true) ∧
    (finalize (framesLoop k s ((fr, e) :: rest)).1 true).out = s.out ++ spec k (rest.map (·.1)) := by
  have h1 : onFrame k s fr e = (s, true) := by simp [onFrame, hs, he]
  refine ⟨h1, ?_⟩
  rw [framesLoop, h1]
  exact (framesLoop_spec k hk sh rest hrest s hs).2

/-- a frame whose shape differs from the mapped accumulator's: the write is aborted — the frames
summed so far are dropped — and the offending frame itself is NOT used to start a new window;
the next frame starts one. -/
theorem shape_change_drops_window (k : Nat) (hk : 2 ≤ k) (sh : Shape) (s : St) (a : Acc) (hs : s.acc = some a)
    (fr : Frame) (e : FrameEnv) (hne : fr.shape ≠ a.shape) (rest : List (Frame × FrameEnv))
    (hrest : ∀ fe ∈ rest, Clean sh fe) :
    onFrame k s fr e = ({ acc := none, frameCount := 0, out := s.out }, true) ∧
    (finalize (framesLoop k s ((fr, e) :: rest)).1 true).out = s.out ++ spec k (rest.map (·.1)) := by
  have hc : consistentShape a.shape fr.shape = false := by
    simp only [consistentShape, decide_eq_false_iff_not]; exact fun h => hne h.symm
  have h1 : onFrame k s fr e = ({ acc := none, frameCount := 0, out := s.out }, true) := by
    simp [onFrame, hs, hc]
  refine ⟨h1, ?_⟩
  rw [framesLoop, h1]
  exact (framesLoop_spec k hk sh rest hrest _ rfl).2

/-- `sig_accumulator_reset`: the pending accumulator is dropped, nothing is committed -/
theorem reset_drops_pending (s : St) :
    (resetAcc s).acc = none ∧ (resetAcc s).out = s.out := by
  unfold resetAcc
  cases h : s.acc <;> simp [h]

/-- a frame of a sample type `accumulate` has no case for (f32, anything unknown): `process_data`
fails, the thread exits with an error; a mapped accumulator is committed as it stands -/
theorem unsupported_type_fails_thread (k : Nat) (s : St) (fr : Frame) (e : FrameEnv)
    (hty : fr.ty.isInteger = false) (hmap : s.acc = none → e.ok = true)
    (hshape : ∀ a, s.acc = some a → a.shape = fr.shape) :
    (onFrame k s fr e).2 = false ∧ (onFrame k s fr e).1.acc = none := by
  cases hs : s.acc with
  | none =>
    simp [onFrame, hs, hmap hs, accumulate_unsupported hty, errorPath]
  | some a =>
    have hc : consistentShape a.shape fr.shape = true := by simp [consistentShape, hshape a hs]
    simp [onFrame, hs, hc, accumulate_unsupported hty, errorPath]

/-- `filter_window_frames < 2`: `process_data` itself behaves as with 2 (a window is only tested
for completeness from its second frame on) … -/
theorem window_below_two_acts_as_two (k : Nat) (hk : k ≤ 2) (s : St) (hfc : s.acc ≠ none → 1 ≤ s.frameCount)
    (fr : Frame) (e : FrameEnv) : onFrame k s fr e = onFrame 2 s fr e := by
  unfold onFrame
  cases hs : s.acc with
  | none => rfl
  | some a =>
    have := hfc (by simp [hs])
    have h1 : s.frameCount + 1 ≥ k := by omega
    have h2 : s.frameCount + 1 ≥ 2 := by omega
    simp only [h1, h2]

/-- … but it never gets there: with `frame_average_count < 2` the source thread writes to the
sink's channel directly (`enable_filter = frame_average_count > 1`) and the frames arrive unchanged -/
theorem filter_bypassed_below_two (k : Nat) (hk : k < 2) (bs : List Batch) (fin : Bool) :
    pipeline k bs fin = (input bs).map .raw := by
  have : enableFilter k = false := by simp [enableFilter]; omega
  simp [pipeline, this, input]

/-! ## non-vacuity -/

section Examples

private def sh2 : Shape := Shape.image 2 1
private def fr (id : Nat) (ty : SampleType) (a b : Int) : Frame := { id := id, shape := sh2, ty := ty, pix := [a, b] }
private def env (junk : Int) : FrameEnv := { ok := true, old := fun i => junk + i }
private def refused : FrameEnv := { ok := false, old := fun _ => 0 }

/-- five i8 frames in batches of 2 + 0 + 3, window 2, garbage in the ring -/
private def bs5 : List Batch :=
  [ { frames := [(fr 0 .i8 (-128) 127, env 77), (fr 1 .i8 (-128) 1, env (-5))], reset := false },
    { frames := [], reset := false },
    { frames := [(fr 2 .i8 5 6, env 1000), (fr 3 .i8 7 8, env 3), (fr 4 .i8 (-9) 10, env 9)], reset := false } ]

example : (∀ b ∈ bs5, b.reset = false) ∧ (∀ b ∈ bs5, ∀ fe ∈ b.frames, Clean sh2 fe) := by decide

example : ((thread 2 bs5 true).out.map fun o => (o.id, o.ty, o.sums, o.div)) =
    [(0, .f32, [-256, 128], 2), (2, .f32, [12, 14], 2), (4, .f32, [-9, 10], 1)] := by decide

/-- the main theorem applied to it -/
example : (spec 2 (input bs5)).map (fun o => (o.id, o.sums, o.div)) = [(0, [-256, 128], 2), (2, [12, 14], 2), (4, [-9, 10], 1)] := by
  rw [← (averaging_emits_window_sums 2 (by decide) sh2 bs5 (by decide) (by decide)).1]; decide

/-- same input, other batching, other garbage: same result -/
example : thread 2 bs5 true =
    thread 2 [{ frames := (bs5.flatMap (·.frames)).map fun fe => (fe.1, fe.2.withOld fun _ => 0), reset := false }] true := by
  decide

/-- window 3 over 6 frames: no extra frame -/
example : ((thread 3 [{ frames := (List.range 6).map (fun i => (fr i .u16 65535 (Int.ofNat i), env 4)), reset := false }] true).out.map
    fun o => (o.id, o.sums, o.div)) = [(0, [196605, 3], 3), (3, [196605, 12], 3)] := by decide

/-- a refused map: frame 0 is skipped, the window is frames 1 and 2 -/
example : ((thread 2 [{ frames := [(fr 0 .u8 1 1, refused), (fr 1 .u8 2 2, env 0), (fr 2 .u8 3 3, env 0)], reset := false }] true).out.map
    fun o => (o.id, o.sums, o.div)) = [(1, [5, 5], 2)] := by decide

/-- a reachable state with a mapped accumulator (hypothesis of `partial_sums_exact_range`) -/
example : Reach 3 255 (onFrame 3 St.init (fr 0 .u8 255 0) (env 1)).1 ∧
    (onFrame 3 St.init (fr 0 .u8 255 0) (env 1)).1.acc ≠ none :=
  ⟨Reach.frame _ Reach.init (by simp [FrameBounded, fr]), by decide⟩

example : (256 : Nat) * maxAbs .u16 < 2 ^ 24 ∧ ¬ (257 : Nat) * maxAbs .u16 < 2 ^ 24 := by decide

/-- the unsupported-type hypothesis is satisfiable, and the thread reports failure -/
example : threadFailed 2 [{ frames := [(fr 0 .f32 1 1, env 0)], reset := false }] = true := by decide

end Examples

end AcqVerif.C10
