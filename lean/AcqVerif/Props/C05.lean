import AcqVerif.Frames.Model
import AcqVerif.Channel.Align
/-!
# C05 — frame packets are whole, exactly chained, 8-byte aligned frames

Two layers.
* **Sizes** (`Frames/Model.lean`, constants and rounding expressions regenerated from the source on
  every run): the size a frame occupies — which `source.c`/`filter.c` use both as the size of the
  write and as the header's `bytes_of_frame` — is the header size plus the image bytes rounded up to
  a multiple of 8, for every shape and sample type.
* **Channel** (`Channel/Align.lean`): for every history in which writes are frames (multiples of 8)
  and readers consume up to frame boundaries, every region handed to a reader starts on an 8-byte
  boundary, starts at a write boundary and ends at a write boundary: it is a back-to-back sequence
  of whole frames, and stepping by the size fields lands exactly on the next header or the end.
-/
namespace AcqVerif.C05
open AcqVerif AcqVerif.Channel AcqVerif.Frames AcqVerif.Generated.FrameConst

/-- **C05.1** — for every `strides.planes` value and every sample type: the frame size is a multiple of 8,
at least header + image bytes, and less than that + 8 (the smallest such multiple). -/
theorem frame_size (planes type : Nat) :
    frameBytes planes type % 8 = 0 ∧
    hdr + imageBytes planes type ≤ frameBytes planes type ∧
    frameBytes planes type < hdr + imageBytes planes type + 8 := by
  unfold frameBytes sourceAlign
  omega

theorem accumulator_size (planes : Nat) :
    accumulatorBytes planes % 8 = 0 ∧
    hdr + imageBytes planes 4 ≤ accumulatorBytes planes ∧
    accumulatorBytes planes < hdr + imageBytes planes 4 + 8 := by
  unfold accumulatorBytes filterAlign
  omega

/-- the header itself is a multiple of 8 bytes long, the size field is its first member and the pixel
data follows it immediately (extracted layout) -/
theorem header_layout : hdr % 8 = 0 ∧ sizeFieldOff = 0 ∧ dataOff = hdr := by decide

/-- every sample type of the enum has a positive size; values outside the enum have size 0 -/
theorem bytes_of_type_table :
    (∀ t, t < sampleTypeCount → 0 < bytesOfType t) ∧ (∀ t, sampleTypeCount ≤ t → bytesOfType t = 0) := by
  refine ⟨?_, ?_⟩
  · intro t ht
    have : t = 0 ∨ t = 1 ∨ t = 2 ∨ t = 3 ∨ t = 4 ∨ t = 5 ∨ t = 6 ∨ t = 7 := by
      simp only [sampleTypeCount] at ht; omega
    rcases this with e | e | e | e | e | e | e | e <;> subst e <;> decide
  · intro t ht
    simp only [sampleTypeCount] at ht
    unfold bytesOfType bytesOfTypeTable
    have : t = 8 ∨ t = 9 ∨ t = 10 ∨ 11 ≤ t := by omega
    rcases this with e | e | e | e
    · subst e; rfl
    · subst e; rfl
    · subst e; rfl
    · simp [List.getD, List.getElem?_eq_none (show [1, 2, 1, 2, 4, 2, 2, 2, 0, 0, 0].length ≤ t from e)]

/-- **C05.2** — for every history that obeys the usage rules, whose writes are multiples of 8 and whose readers
consume their whole region or a multiple of 8 bytes: every cursor of the channel is a multiple of 8, so every
region handed to the writer and to any reader starts on an 8-byte boundary of the buffer. -/
theorem regions_8_aligned (cap : Nat) (ops : List Op) (h1 : wfRun (Sys.init cap) ops = true)
    (h2 : alignedRun (Sys.init cap) ops = true) :
    let s := run (Sys.init cap) ops
    s.c.head % 8 = 0 ∧ (s.pending = true → s.wbeg % 8 = 0) ∧
    ∀ i, (nth s.c.holds i).pos % 8 = 0 ∧ mappedLen s i % 8 = 0 := by
  have hr := (Reachable.init cap).run ops h1
  have ha := (A8.init cap).run (Reachable.init cap) ops h1 h2
  refine ⟨ha.head, ?_, ?_⟩
  · intro hp; rw [(hr.inv.pend hp).1]; exact ha.head
  · intro i
    refine ⟨ha.hold_nth i, ?_⟩
    unfold mappedLen
    split
    · exact availBytes_mod8 _ _ _ (ha.rd_nth i) (ha.hold_nth i) ha.high
    · rfl

/-- **C05.3** — if in addition every reader consumes up to a write boundary (a whole number of frames —
what the sink does by stepping through `bytes_of_frame`, and what the monitoring client is required to do),
then every reader's position is a write boundary in every reachable state, and every region `read_map`
hands out ends at a write boundary: the region is exactly a concatenation of whole committed writes. -/
theorem regions_are_whole_writes (cap : Nat) (ops : List Op) (h1 : wfRun (Sys.init cap) ops = true)
    (h2 : alignedRun (Sys.init cap) ops = true) (h3 : boundaryRun (Sys.init cap) ops = true) :
    let s := run (Sys.init cap) ops
    (∀ i, i < s.rds.length → nth s.idx i ∈ s.bounds) ∧
    (∀ i, (Op.rmap i).wf s = true → nth s.idx i + readLen s i ∈ s.bounds) := by
  have hb0 : BndI (Sys.init cap) := by intro i hi; simp [Sys.init] at hi
  have hr := (Reachable.init cap).run ops h1
  have hb := hb0.run (Reachable.init cap) ops h1 h3
  refine ⟨?_, ?_⟩
  · intro i hi; exact hb i (by rw [hr.inv.l_idx, ← hr.inv.l_rds]; exact hi)
  · intro i hwf
    obtain ⟨hi, _, hun⟩ := rmap_wf hr.inv hwf
    exact region_ends_at_boundary hr.inv i hi hun

/-! ## Non-vacuity -/

example : frameBytes 3 0 = 104 ∧ frameBytes 64 1 = 224 ∧ frameBytes 1 4 = 104 := by decide

/-- three 104-byte frames through a 336-byte ring with a sink-like reader: the third frame wraps -/
def demo : List Op :=
  [.join, .wmap 104, .wcommit, .wmap 104, .wcommit, .rmap 0, .runmap 0 104, .wmap 104, .wcommit, .rmap 0, .runmap 0 208,
   .wmap 104, .wcommit, .rmap 0]

example : wfRun (Sys.init 336) demo = true ∧ alignedRun (Sys.init 336) demo = true ∧
    boundaryRun (Sys.init 336) demo = true := by decide
example : (run (Sys.init 336) demo).c.cycle = 1 ∧ mappedLen (run (Sys.init 336) demo) 0 = 104 := by decide

end AcqVerif.C05
