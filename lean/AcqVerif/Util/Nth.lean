/-! `nth`: total list indexing with a default, and its interaction with `set` / `++` -/
namespace AcqVerif

def nth [Inhabited α] (l : List α) (i : Nat) : α := l.getD i default

variable {α : Type} [Inhabited α]

theorem getD_default_eq_nth (l : List α) (i : Nat) : l.getD i default = nth l i := rfl

theorem getD_zero_eq_nth (l : List Nat) (i : Nat) : l.getD i 0 = nth l i := rfl

theorem nth_eq_getElem (l : List α) (i : Nat) (h : i < l.length) : nth l i = l[i] := by
  simp [nth, List.getD, h]

theorem nth_set_eq (l : List α) (i : Nat) (v : α) (h : i < l.length) : nth (l.set i v) i = v := by
  simp [nth, List.getD, h]

theorem nth_set_ne (l : List α) (i j : Nat) (v : α) (h : i ≠ j) : nth (l.set i v) j = nth l j := by
  simp [nth, List.getD, h]

theorem nth_append_lt (l m : List α) (i : Nat) (h : i < l.length) : nth (l ++ m) i = nth l i := by
  simp [nth, List.getD, List.getElem?_append_left h]

theorem nth_append_length (l : List α) (v : α) : nth (l ++ [v]) l.length = v := by
  simp [nth, List.getD]

theorem nth_append_eq (l : List α) (v : α) {n : Nat} (h : l.length = n) : nth (l ++ [v]) n = v :=
  h ▸ nth_append_length l v

theorem nth_map_const (l : List α) (v : α) (i : Nat) (h : i < l.length) : nth (l.map fun _ => v) i = v := by
  simp [nth, List.getD, h]

theorem getElem?_eq_some_nth (l : List α) (i : Nat) (h : i < l.length) : l[i]? = some (nth l i) := by
  simp [nth, List.getD, h]

theorem of_getElem?_eq_some {l : List α} {i : Nat} {a : α} (h : l[i]? = some a) : i < l.length ∧ a = nth l i := by
  obtain ⟨hi, e⟩ := List.getElem?_eq_some_iff.mp h
  exact ⟨hi, by rw [nth_eq_getElem l i hi, e]⟩

theorem nth_mem (l : List α) (i : Nat) (h : i < l.length) : nth l i ∈ l := by
  rw [nth_eq_getElem l i h]; exact List.getElem_mem h

theorem exists_nth_of_mem (l : List α) (x : α) (h : x ∈ l) : ∃ i, i < l.length ∧ nth l i = x := by
  obtain ⟨i, hi, e⟩ := List.getElem_of_mem h
  exact ⟨i, hi, by rw [nth_eq_getElem l i hi, e]⟩

theorem nth_beyond (l : List α) (i : Nat) (h : l.length ≤ i) : nth l i = default := by
  simp [nth, List.getD, List.getElem?_eq_none h]

/-- what holds of every element of a list and of the default holds of `nth l i`, in range or not -/
theorem nth_of_forall {P : α → Prop} (l : List α) (i : Nat) (h : ∀ x ∈ l, P x) (hd : P default) : P (nth l i) := by
  by_cases hi : i < l.length
  · exact h _ (nth_mem _ _ hi)
  · rw [nth_beyond l i (Nat.le_of_not_lt hi)]; exact hd

theorem list_set_nth_self (l : List α) (i : Nat) : l.set i (nth l i) = l := by
  apply List.ext_getElem (by simp)
  intro k h1 h2
  simp only [List.getElem_set]
  split
  · rename_i e; subst e; simp only [List.length_set] at h1; rw [nth_eq_getElem l i h1]
  · rfl

omit [Inhabited α] in
theorem list_set_append_last (l : List α) (a b : α) : (l ++ [a]).set l.length b = l ++ [b] := by
  induction l with
  | nil => rfl
  | cons x t ih => simp [ih]

end AcqVerif
