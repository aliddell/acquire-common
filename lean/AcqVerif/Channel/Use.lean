import AcqVerif.Props.C01
import AcqVerif.Props.C02
/-!
# What a user of the channel may rely on, one lemma per operation

For a channel state reached by a well-formed history (`Reachable`), each lemma says what the operation does to the
quantities a pipeline stage reasons with: the committed byte count `total`, the readers' stream positions `idx`,
whether a write is pending (`pending`, `wlen`), and the extent `regionLen` of every reader's mapped region.
These are the facts the runtime model (M1) uses about `channel.c`; they are consequences of C01/C02.
-/
namespace AcqVerif.Channel
open AcqVerif AcqVerif.C02

variable {cap : Nat} {s : Sys} {g : Ghost}

/-- `∃ cap g, Reachable cap s g`: the state comes from a well-formed history of some channel -/
def Ok (s : Sys) : Prop := ∃ cap g, Reachable cap s g

theorem Ok.step (h : Ok s) (op : Op) (hwf : op.wf s = true) : Ok (step s op).1 := by
  obtain ⟨cap, g, hr⟩ := h
  exact ⟨cap, _, hr.step op hwf⟩

/-- an operation that refers to a reader handle that does not exist changes nothing -/
theorem step_runmap_bad (s : Sys) (i k : Nat) (h : s.rds.length ≤ i) : (step s (.runmap i k)).1 = s := by
  simp [step, List.getElem?_eq_none h]

theorem regionLen_unmapped (s : Sys) (i : Nat) (h : (nth s.rds i).mapped = false) : regionLen s i = 0 := by
  unfold regionLen; simp [h]

/-- readers beyond the registered ones are the default handle -/
theorem nth_rds_beyond (s : Sys) (j : Nat) (h : s.rds.length ≤ j) : (nth s.rds j).mapped = false := by
  rw [nth_beyond _ _ h]; rfl

/-- reader `j` has the region it had if its handle is the same and, in case it is a registered reader with a mapped
region, that region is the same -/
theorem regionLen_congr (s s' : Sys) (j : Nat) (hr : nth s'.rds j = nth s.rds j)
    (hm : j < s.rds.length → (nth s.rds j).mapped = true → regionLen s' j = regionLen s j) :
    regionLen s' j = regionLen s j := by
  cases hmj : (nth s.rds j).mapped with
  | true =>
    by_cases hj : j < s.rds.length
    · exact hm hj hmj
    · rw [nth_rds_beyond s j (by omega)] at hmj; cases hmj
  | false => rw [regionLen_unmapped s j hmj, regionLen_unmapped s' j (by rw [hr]; exact hmj)]

/-- an operation other than reader `j`'s own unmap that leaves `j`'s handle as it is leaves `j`'s region as it is -/
theorem regionLen_step (hr : Reachable cap s g) (op : Op) (hwf : op.wf s = true) (j : Nat) (hne : ∀ k, op ≠ .runmap j k)
    (he : nth (step s op).1.rds j = nth s.rds j) : regionLen (step s op).1 j = regionLen s j :=
  regionLen_congr s _ j he fun hj hm => (mapped_reader_frame hr op hwf j hj hm hne).2.2.1

/-! ## the writer -/

/-- `channel_write_map(n)` that hands out a region: a write of `n` bytes is pending; nothing a reader sees changes -/
theorem wmap_ok (hr : Reachable cap s g) (n b : Nat) (hwf : (Op.wmap n).wf s = true) (h : (step s (.wmap n)).2 = .wok b) :
    (step s (.wmap n)).1.pending = true ∧ (step s (.wmap n)).1.wlen = n ∧ (step s (.wmap n)).1.total = s.total ∧
    (step s (.wmap n)).1.idx = s.idx ∧ (step s (.wmap n)).1.rds = s.rds ∧
    ∀ i, regionLen (step s (.wmap n)).1 i = regionLen s i := by
  have hfr := fun i => regionLen_step hr (.wmap n) hwf i (fun _ => nofun)
  simp only [step] at h hfr ⊢
  split at h <;> simp_all

/-- `channel_write_unmap`: the pending `wlen` bytes join the committed stream if the channel accepts writes -/
theorem wcommit_spec (hr : Reachable cap s g) (hp : s.pending = true) :
    (step s .wcommit).1.pending = false ∧
    (step s .wcommit).1.total = s.total + (if s.c.accepting then s.wlen else 0) ∧
    (step s .wcommit).1.idx = s.idx ∧ (step s .wcommit).1.rds = s.rds ∧
    ∀ i, regionLen (step s .wcommit).1 i = regionLen s i := by
  have hrds : (step s .wcommit).1.rds = s.rds := by simp only [step]; split <;> rfl
  have hpend := hr.inv.pend hp
  refine ⟨?_, ?_, ?_, hrds, fun i => regionLen_step hr _ rfl i (fun _ => nofun) (by rw [hrds])⟩
  · simp only [step]; split <;> rfl
  · simp only [step]; split
    · simp only; omega
    · simp
  · simp only [step]; split <;> rfl

theorem wabort_spec (hr : Reachable cap s g) (hwf : Op.wabort.wf s = true) :
    (step s .wabort).1.pending = false ∧ (step s .wabort).1.total = s.total ∧
    (step s .wabort).1.idx = s.idx ∧ (step s .wabort).1.rds = s.rds ∧
    ∀ i, regionLen (step s .wabort).1 i = regionLen s i :=
  ⟨rfl, rfl, rfl, rfl, fun i => regionLen_step hr _ hwf i (fun _ => nofun) rfl⟩

theorem accept_spec (s : Sys) (b : Bool) :
    (step s (.accept b)).1.pending = s.pending ∧ (step s (.accept b)).1.wlen = s.wlen ∧ (step s (.accept b)).1.total = s.total ∧
    (step s (.accept b)).1.idx = s.idx ∧ (step s (.accept b)).1.rds = s.rds ∧
    (∀ i, regionLen (step s (.accept b)).1 i = regionLen s i) ∧ (step s (.accept b)).1.c.accepting = b :=
  ⟨rfl, rfl, rfl, rfl, rfl, fun _ => rfl, rfl⟩

/-! ## a reader -/

/-- `channel_read_map` by reader `i` (registered, not mapped): the region is the reader's next `len` committed bytes -/
theorem rmap_spec (hr : Reachable cap s g) (i : Nat) (hwf : (Op.rmap i).wf s = true) :
    ∃ beg len, (step s (.rmap i)).2 = .slice beg len 0 ∧
      (len = 0 → nth s.idx i = s.total) ∧ nth s.idx i + len ≤ s.total ∧
      (step s (.rmap i)).1.idx = s.idx ∧ (step s (.rmap i)).1.total = s.total ∧
      (step s (.rmap i)).1.pending = s.pending ∧ (step s (.rmap i)).1.wlen = s.wlen ∧
      (step s (.rmap i)).1.rds.length = s.rds.length ∧
      (nth (step s (.rmap i)).1.rds i).mapped = decide (0 < len) ∧
      regionLen (step s (.rmap i)).1 i = len ∧
      (∀ j, j ≠ i → nth (step s (.rmap i)).1.rds j = nth s.rds j ∧ regionLen (step s (.rmap i)).1 j = regionLen s j) ∧
      (step s (.rmap i)).1.c.accepting = s.c.accepting := by
  have h := hr.inv
  obtain ⟨hi, hget, hun⟩ := rmap_wf h hwf
  have hfr := fun j => regionLen_step hr (.rmap i) hwf j (fun _ => nofun)
  have hlt : i < s.rds.length := by rw [h.l_rds]; exact hi
  have hfields := readMapCore_fields s.c (nth s.rds i) i (nth s.c.holds i)
  simp only [step, hget] at hfr ⊢
  rw [readMap_registered _ _ i (h.rd i hi).1.id] at hfr ⊢
  rcases e : readMapAt s.c (nth s.rds i) i with ⟨c', r', sl⟩
  rw [show readMapCore s.c (nth s.rds i) i (nth s.c.holds i) = (c', r', sl) from e] at hfields
  rw [e] at hfr
  obtain ⟨_, hst, hmap, h0, hle, _, hpos⟩ := h.readMapAt_spec i hi hun e
  refine ⟨sl.beg, sl.len, by rw [hst], h0, hle, trivial, trivial, trivial, trivial, by simp, ?_, ?_, ?_, hfields.2.2.2.2.2⟩
  · rw [nth_set_eq _ _ _ hlt]; exact hmap
  · unfold regionLen
    simp only
    rw [nth_set_eq _ _ _ hlt, hmap, hfields.1]
    by_cases hl : 0 < sl.len
    · rw [decide_eq_true hl, if_pos rfl]; exact (hpos hl).2
    · rw [decide_eq_false hl, if_neg (by simp)]; omega
  · intro j hne
    have e := nth_set_ne s.rds i j r' (Ne.symm hne)
    exact ⟨e, hfr j e⟩

/-- `channel_read_unmap(reader i, k)`: the reader advances by `min (its region) k` bytes and is unmapped -/
theorem runmap_spec (hr : Reachable cap s g) (i k : Nat) (hi : i < s.rds.length) :
    nth (step s (.runmap i k)).1.idx i = nth s.idx i + min (regionLen s i) k ∧
    (∀ j, j ≠ i → nth (step s (.runmap i k)).1.idx j = nth s.idx j) ∧
    (step s (.runmap i k)).1.total = s.total ∧ (step s (.runmap i k)).1.pending = s.pending ∧
    (step s (.runmap i k)).1.wlen = s.wlen ∧
    (step s (.runmap i k)).1.rds.length = s.rds.length ∧
    (nth (step s (.runmap i k)).1.rds i).mapped = false ∧
    (∀ j, j ≠ i → nth (step s (.runmap i k)).1.rds j = nth s.rds j ∧ regionLen (step s (.runmap i k)).1 j = regionLen s j) ∧
    (step s (.runmap i k)).1.c.accepting = s.c.accepting := by
  have h := hr.inv
  have hwf : (Op.runmap i k).wf s = true := by simp [Op.wf, hi]
  have hfr := fun j (hne : j ≠ i) => regionLen_step hr (.runmap i k) hwf j (by intro k' hk; cases hk; exact hne rfl)
  have hget : s.rds[i]? = some (nth s.rds i) := getElem?_eq_some_nth _ _ hi
  have hix : i < s.idx.length := by rw [h.l_idx, ← h.l_rds]; exact hi
  simp only [step, hget, getD_zero_eq_nth, getD_default_eq_nth] at hfr ⊢
  refine ⟨?_, ?_, trivial, trivial, trivial, by simp, ?_, ?_, ?_⟩
  · rw [nth_set_eq _ _ _ hix]; unfold regionLen; rfl
  · intro j hne; rw [nth_set_ne _ _ _ _ (Ne.symm hne)]
  · rw [nth_set_eq _ _ _ hi]
    unfold readUnmap; split <;> simp_all
  · intro j hne
    have e := nth_set_ne s.rds i j (readUnmap s.c (nth s.rds i) k).2 (Ne.symm hne)
    exact ⟨e, hfr j hne e⟩
  · unfold readUnmap; split <;> simp [setHold]

/-- a new reader registering (`channel_read_map` with a zero-initialised handle) leaves the others alone -/
theorem join_others (hr : Reachable cap s g) (hwf : Op.join.wf s = true) :
    (step s .join).1.total = s.total ∧ (step s .join).1.pending = s.pending ∧ (step s .join).1.wlen = s.wlen ∧
    (step s .join).1.rds.length = s.rds.length + 1 ∧
    (∀ j, j < s.rds.length → nth (step s .join).1.rds j = nth s.rds j ∧ nth (step s .join).1.idx j = nth s.idx j) ∧
    (∀ j, j < s.rds.length → regionLen (step s .join).1 j = regionLen s j) := by
  have h := hr.inv
  have hrds : ∀ j, j < s.rds.length → nth (step s .join).1.rds j = nth s.rds j := fun j hj => nth_append_lt _ _ _ hj
  refine ⟨rfl, rfl, rfl, ?_, fun j hj => ⟨hrds j hj, ?_⟩, fun j hj => regionLen_step hr _ hwf j (fun _ => nofun) (hrds j hj)⟩
  · simp [step]
  · exact nth_append_lt _ _ _ (by rw [h.l_idx, ← h.l_rds]; exact hj)

end AcqVerif.Channel
