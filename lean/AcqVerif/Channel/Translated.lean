import AcqVerif.Channel.Model
import AcqVerif.Generated.ChannelC
/-!
# The model computes what the translated `channel.c` computes

`Generated/ChannelC.lean` is produced on every run by `extract/c2lean.py` from the source as it is now.
This file relates those definitions to the hand-written model of `Channel/Model.lean` (about which every
C01 / C02 / C03 / C05 theorem is proved), function by function, for **all** arguments:
the abstraction `abs` forgets the lock, the data address and the unused tail of the `holds` arrays.
A change of `channel.c` that changes what one of these functions computes makes the corresponding theorem
fail to check (the property check then reports it, and the differential run looks for an input).
-/
namespace AcqVerif.Channel.Translated
open AcqVerif.Channel AcqVerif.Generated.ChannelC

/-- the first `n` entries of the two `holds` arrays as the model's list of holds -/
def holdsOf (pos cyc : List Nat) (n : Nat) : List Hold := (List.range n).map fun i => ⟨pos.getD i 0, cyc.getD i 0⟩

def abs (s : CChannel) : Chan :=
  { cap := s.capacity, head := s.head, high := s.high, cycle := s.cycle, mapped := s.mapped,
    accepting := decide (s.is_accepting_writes ≠ 0), holds := holdsOf s.holds_pos s.holds_cycles s.holds_n }

def absRd (r : CReader) : Rd :=
  { id := r.id, pos := r.pos, cyc := r.cycle, status := r.status, mapped := decide (r.state = ChannelState_Mapped) }

/-! ## `cursor_cmp`, `reader_min` -/

/-- the shape in which the translation renders `if (a && b) x else y`: rewriting with it makes the tests those of the model again -/
theorem ite_ite_and {α : Type} (a b : Prop) [Decidable a] [Decidable b] (x y : α) :
    (if a then (if b then x else y) else y) = if a ∧ b then x else y := by
  by_cases a <;> simp [*]

theorem cursor_cmp_gt (ca pa cb pb : Nat) :
    (cursor_cmp ca pa cb pb = 1) ↔ Hold.gt ⟨pa, ca⟩ ⟨pb, cb⟩ = true := by
  unfold cursor_cmp Hold.gt
  simp only [decide_eq_true_eq]
  (repeat' split) <;> omega

/-- one iteration of the loop of `reader_min` -/
def rmStep (tails cycles : List Nat) (st : Nat × Nat × Nat) (i : Nat) : Nat × Nat × Nat :=
  if cursor_cmp st.2.1 st.1 (cycles.getD i 0) (tails.getD i 0) = 1 then (tails.getD i 0, cycles.getD i 0, i) else st

theorem reader_min_unfold (tails cycles : List Nat) (n : Nat) :
    reader_min tails cycles n =
      ((List.range' 1 (n - 1)).foldl (rmStep tails cycles) (tails.getD 0 0, cycles.getD 0 0, 0)).2.2 := by
  rfl

theorem rm_fold (tails cycles : List Nat) (is : List Nat) (t c a : Nat)
    (ht : t = tails.getD a 0) (hc : c = cycles.getD a 0) :
    let r := is.foldl (rmStep tails cycles) (t, c, a)
    (⟨r.1, r.2.1⟩ : Hold) = minHold ⟨t, c⟩ (is.map fun i => ⟨tails.getD i 0, cycles.getD i 0⟩) ∧
      r.1 = tails.getD r.2.2 0 ∧ r.2.1 = cycles.getD r.2.2 0 ∧ (r.2.2 = a ∨ r.2.2 ∈ is) := by
  induction is generalizing t c a with
  | nil => simp [minHold, ht, hc]
  | cons i rest ih =>
    simp only [List.foldl_cons, List.map_cons, minHold, rmStep, cursor_cmp_gt, List.mem_cons]
    by_cases hg : Hold.gt ⟨t, c⟩ ⟨tails.getD i 0, cycles.getD i 0⟩ = true
    · simp only [hg, ↓reduceIte]
      obtain ⟨h1, h2, h3, h4⟩ := ih _ _ i rfl rfl
      exact ⟨h1, h2, h3, .inr h4⟩
    · simp only [hg]
      obtain ⟨h1, h2, h3, h4⟩ := ih t c a ht hc
      exact ⟨h1, h2, h3, h4.imp_right .inr⟩

theorem holdsOf_succ (pos cyc : List Nat) (n : Nat) :
    holdsOf pos cyc (n + 1) = ⟨pos.getD 0 0, cyc.getD 0 0⟩ :: (List.range' 1 n).map fun i => ⟨pos.getD i 0, cyc.getD i 0⟩ := by
  unfold holdsOf
  rw [List.range_eq_range', List.range'_succ]
  simp

/-- **`reader_min`** returns the index of the hold the model's `readerMin` returns (first among equals), for any array contents
and any `n ≥ 1` -/
theorem reader_min_spec (pos cyc : List Nat) (n : Nat) (hn : 1 ≤ n) :
    reader_min pos cyc n < n ∧
      (⟨pos.getD (reader_min pos cyc n) 0, cyc.getD (reader_min pos cyc n) 0⟩ : Hold) = readerMin (holdsOf pos cyc n) := by
  obtain ⟨m, rfl⟩ : ∃ m, n = m + 1 := ⟨n - 1, by omega⟩
  rw [reader_min_unfold, holdsOf_succ]
  simp only [Nat.add_sub_cancel, readerMin]
  obtain ⟨h1, h2, h3, h4⟩ := rm_fold pos cyc (List.range' 1 m) (pos.getD 0 0) (cyc.getD 0 0) 0 rfl rfl
  constructor
  · rcases h4 with h4 | h4
    · rw [h4]; omega
    · have := List.mem_range'_1.1 h4; omega
  · rw [← h1, h2, h3]

/-! ## `get_available_byte_count` -/

theorem get_available_byte_count_eq (r : CReader) (pos cyc high : Nat) :
    get_available_byte_count r pos cyc high = availBytes (absRd r) ⟨pos, cyc⟩ high := by
  unfold get_available_byte_count availBytes absRd
  simp only
  split <;> split <;> simp_all

/-! ## `next_write` -/

/-- **`next_write`** decides and places exactly as the model's `nextWrite`: it returns 0 iff the model says "no room", and
otherwise 1 together with the model's offset and wrap flag — for every channel state with at least one reader, request size
and previous contents of the two out-parameters -/
theorem next_write_eq (s : CChannel) (n b w : Nat) (hn : 1 ≤ s.holds_n) :
    (nextWrite (abs s) n = .no → (next_write s n b w).1 = 0) ∧
    (∀ beg wrap, nextWrite (abs s) n = .at beg wrap → next_write s n b w = (1, beg, if wrap then 1 else 0)) := by
  obtain ⟨_, hm⟩ := reader_min_spec s.holds_pos s.holds_cycles s.holds_n hn
  unfold next_write nextWrite abs
  simp only [← hm, ite_ite_and]
  generalize s.holds_pos.getD (reader_min s.holds_pos s.holds_cycles s.holds_n) 0 = tail
  generalize s.holds_cycles.getD (reader_min s.holds_pos s.holds_cycles s.holds_n) 0 = tc
  by_cases ha : s.is_accepting_writes = 0
  · simp [ha]
  by_cases h1 : s.head < tail
  · by_cases h2 : n ≤ tail - s.head <;> simp [ha, h1, h2]
  by_cases h4 : tail = s.head ∧ s.cycle = tc + 1
  · simp [ha, h4]
  by_cases h5 : n ≤ s.capacity - s.head
  · simp [ha, h1, h4, h5]
  by_cases h6 : n ≤ tail
  · simp [ha, h1, h4, h5, h6]
  by_cases h3 : tail = s.head
  · subst h3
    have h4' : ¬ s.cycle = tc + 1 := fun e => h4 ⟨rfl, e⟩
    by_cases h7 : n < s.capacity <;> simp [ha, h4', h5, h6, h7]
  · simp [ha, h1, h5, h6, h3]

/-! ## `channel_write_map` -/

/-- the arrays are long enough for the readers that are registered (they have `MAX_READERS` = 8 entries in the C) -/
def Wf (s : CChannel) : Prop := s.holds_n ≤ s.holds_pos.length ∧ s.holds_n ≤ s.holds_cycles.length

/-- one iteration of the loop that resets every bookmark when the writer starts over -/
def resetStep (self : CChannel) (i : Nat) : CChannel :=
  let self := { self with holds_pos := self.holds_pos.set i (0) }
  let self := { self with holds_cycles := self.holds_cycles.set i (self.cycle) }
  self

theorem getD_set (l : List Nat) (i j v : Nat) :
    (l.set i v).getD j 0 = if i = j ∧ i < l.length then v else l.getD j 0 := by
  simp only [List.getD_eq_getElem?_getD, List.getElem?_set]
  by_cases h : i = j
  · subst h
    by_cases h2 : i < l.length <;> simp [h2]
  · simp [h]

/-- entry `j` after writing `a` to entries `0 … k` one at a time -/
theorem ite_set_lt {α : Type} (n k j : Nat) (a b : α) (h : k < n) :
    (if k = j ∧ k < n then a else if j < k then a else b) = if j < k + 1 then a else b := by
  by_cases e : k = j
  · subst e; simp [h]
  · have : j < k + 1 ↔ j < k := by omega
    simp [e, this]

theorem reset_fold (s : CChannel) (k : Nat) (h1 : k ≤ s.holds_pos.length) (h2 : k ≤ s.holds_cycles.length) :
    ∃ p c, (List.range' 0 k).foldl resetStep s = { s with holds_pos := p, holds_cycles := c } ∧
      p.length = s.holds_pos.length ∧ c.length = s.holds_cycles.length ∧
      (∀ j, p.getD j 0 = if j < k then 0 else s.holds_pos.getD j 0) ∧
      (∀ j, c.getD j 0 = if j < k then s.cycle else s.holds_cycles.getD j 0) := by
  induction k with
  | zero => exact ⟨_, _, rfl, rfl, rfl, by simp, by simp⟩
  | succ k ih =>
    obtain ⟨p, c, e, l1, l2, g1, g2⟩ := ih (by omega) (by omega)
    rw [List.range'_concat, List.foldl_append, e]
    simp only [List.foldl_cons, List.foldl_nil, Nat.zero_add, Nat.one_mul]
    refine ⟨p.set k 0, c.set k s.cycle, rfl, by simp [l1], by simp [l2], fun j => ?_, fun j => ?_⟩
    · rw [getD_set, g1, l1]; exact ite_set_lt _ _ _ _ _ (by omega)
    · rw [getD_set, g2, l2]; exact ite_set_lt _ _ _ _ _ (by omega)

theorem holdsOf_isEmpty (p c : List Nat) (n : Nat) : (holdsOf p c n).isEmpty = decide (n = 0) := by
  unfold holdsOf
  cases n <;> simp [List.range_succ]

/-- the whole loop: every registered reader's bookmark becomes `(0, cycle)`, nothing else changes -/
theorem reset_spec (s : CChannel) (hw : Wf s) :
    ∃ p c, (List.range' 0 (s.holds_n - 0)).foldl resetStep s = { s with holds_pos := p, holds_cycles := c } ∧
      p.length = s.holds_pos.length ∧ c.length = s.holds_cycles.length ∧
      holdsOf p c s.holds_n = (holdsOf s.holds_pos s.holds_cycles s.holds_n).map fun _ => ⟨0, s.cycle⟩ := by
  obtain ⟨p, c, e, l1, l2, g1, g2⟩ := reset_fold s s.holds_n hw.1 hw.2
  refine ⟨p, c, e, l1, l2, ?_⟩
  unfold holdsOf
  rw [List.map_map]
  apply List.map_congr_left
  intro i hi
  simp only [Function.comp, g1, g2, List.mem_range.1 hi, ↓reduceIte]

/-- what `channel_write_map` does once `next_write` has found room at `beg` (`w` = its wrap flag) -/
def wmTail (s : CChannel) (beg w n : Nat) : Nat × CChannel :=
  let s1 := if beg ≠ s.head then { s with high := s.head, head := beg, cycle := s.cycle + 1 } else s
  let s2 := if w ≠ 0 then (List.range' 0 (s1.holds_n - 0)).foldl resetStep s1 else s1
  (s2.data + beg, { s2 with mapped := beg + n })

theorem wm_at (s : CChannel) (n beg w : Nat) (hcap : ¬ n ≥ s.capacity) (hn0 : ¬ s.holds_n = 0) (ha : ¬ s.is_accepting_writes = 0)
    (h1 : next_write s n 0 0 = (1, beg, w)) : channel_write_map s n = wmTail s beg w n := by
  unfold channel_write_map wmTail
  simp only [hcap, ↓reduceIte, ne_eq, hn0, not_false_eq_true, Int.natCast_eq_zero, ha, h1, Nat.succ_ne_zero]
  by_cases hb : beg = s.head <;> by_cases hw : w = 0 <;> simp only [hb, hw, not_true_eq_false, not_false_eq_true, ↓reduceIte] <;> rfl

/-- **`channel_write_map`** against the model's `writeMap`, for every state and request: it returns a null pointer and changes
nothing exactly when the model says `.null`; it reaches `condition_variable_wait` (ghost `blocked`), having changed nothing else,
exactly when the model says `.block`; otherwise it returns `data + beg` for the model's `beg` and leaves the model's new state. -/
theorem channel_write_map_eq (s : CChannel) (n : Nat) (hw : Wf s) :
    match writeMap (abs s) n with
    | .null => channel_write_map s n = (0, s)
    | .block => channel_write_map s n = (0, { s with blocked := 1 })
    | .ok beg c' => (channel_write_map s n).1 = s.data + beg ∧ abs (channel_write_map s n).2 = c' ∧
        (channel_write_map s n).2.blocked = s.blocked ∧ (channel_write_map s n).2.notified = s.notified ∧
        (channel_write_map s n).2.data = s.data ∧
        (channel_write_map s n).2.holds_pos.length = s.holds_pos.length ∧
        (channel_write_map s n).2.holds_cycles.length = s.holds_cycles.length := by
  unfold writeMap
  rw [show (abs s).holds.isEmpty = decide (s.holds_n = 0) from holdsOf_isEmpty _ _ _]
  by_cases hcap : n ≥ s.capacity
  · unfold channel_write_map; simp [abs, hcap]
  by_cases hn0 : s.holds_n = 0
  · unfold channel_write_map
    by_cases hwrap : s.head + n ≥ s.capacity <;> simp [abs, hcap, hn0, hwrap, holdsOf]
  by_cases ha : s.is_accepting_writes = 0
  · unfold channel_write_map; simp [abs, hcap, hn0, ha]
  have hc : ¬ n ≥ (abs s).cap := hcap
  have hacc : (abs s).accepting = true := by simp [abs, ha]
  simp only [hc, hn0, hacc, decide_false, Bool.not_true, Bool.false_eq_true, ↓reduceIte]
  obtain ⟨hno, hat⟩ := next_write_eq s n 0 0 (by omega)
  cases hnw : nextWrite (abs s) n with
  | no =>
    unfold channel_write_map
    simp [hcap, hn0, ha, hno hnw]
  | «at» beg wrap =>
    have h1 := hat beg wrap hnw
    rw [wm_at s n beg _ hcap hn0 ha h1]
    unfold wmTail
    cases wrap with
    | false =>
      by_cases hb : beg = s.head
      · subst hb; simp [abs, ha]
      · simp [hb, abs, ha]
    | true =>
      simp only [↓reduceIte, ne_eq, Nat.succ_ne_zero, not_false_eq_true]
      generalize hs1 : (if ¬ beg = s.head then ({ s with high := s.head, head := beg, cycle := s.cycle + 1 } : CChannel) else s) = s1
      have hw1 : Wf s1 := by rw [← hs1]; split <;> exact hw
      obtain ⟨p, c, hr, hl1, hl2, hh⟩ := reset_spec s1 hw1
      rw [hr]
      by_cases hb : beg = s.head
      · subst hb
        simp only [not_true_eq_false, ↓reduceIte] at hs1
        subst hs1
        simp [abs, ha, hh, hl1, hl2]
      · simp only [hb, not_false_eq_true, ↓reduceIte] at hs1
        subst hs1
        simp [abs, ha, hb, hh, hl1, hl2]

/-! ## `channel_write_unmap`, `channel_abort_write`, `channel_accept_writes` -/

theorem channel_write_unmap_eq (s : CChannel) :
    abs (channel_write_unmap s) = writeUnmap (abs s) ∧ (channel_write_unmap s).notified = s.notified ∧
      (channel_write_unmap s).blocked = s.blocked ∧ (channel_write_unmap s).data = s.data := by
  unfold channel_write_unmap writeUnmap abs
  by_cases h : s.is_accepting_writes = 0 <;> simp [h]

theorem channel_abort_write_eq (s : CChannel) :
    abs (channel_abort_write s) = abortWrite (abs s) ∧ (channel_abort_write s).notified = s.notified ∧
      (channel_abort_write s).blocked = s.blocked ∧ (channel_abort_write s).data = s.data := by
  unfold channel_abort_write abortWrite abs
  by_cases h : s.is_accepting_writes = 0 <;> simp [h]

/-- the flag is stored in an `unsigned char`: `tf` is taken modulo 256 (callers pass 0 or 1), and the call always notifies -/
theorem channel_accept_writes_eq (s : CChannel) (tf : Nat) :
    abs (channel_accept_writes s tf) = acceptWrites (abs s) (decide (tf % 256 ≠ 0)) ∧
      (channel_accept_writes s tf).notified = s.notified + 1 := by
  unfold channel_accept_writes acceptWrites abs
  simp

/-! ## the reader side: `reader_initialize`, `channel_read_map`, `channel_read_unmap` -/

theorem holdsOf_length (p c : List Nat) (n : Nat) : (holdsOf p c n).length = n := by simp [holdsOf]

theorem holdsOf_getD (p c : List Nat) (n i : Nat) (h : i < n) :
    (holdsOf p c n).getD i default = ⟨p.getD i 0, c.getD i 0⟩ := by
  simp [holdsOf, List.getD_eq_getElem?_getD, h]

theorem holdsOf_snoc (p c : List Nat) (n : Nat) :
    holdsOf p c (n + 1) = holdsOf p c n ++ [⟨p.getD n 0, c.getD n 0⟩] := by
  simp [holdsOf, List.range_succ]

theorem holdsOf_set (p c : List Nat) (n i v w : Nat) (hi : i < n) (hp : n ≤ p.length) (hc : n ≤ c.length) :
    holdsOf (p.set i v) (c.set i w) n = (holdsOf p c n).set i ⟨v, w⟩ := by
  apply List.ext_getElem
  · simp [holdsOf_length]
  · intro j h1 h2
    have hip : i < p.length := by omega
    have hic : i < c.length := by omega
    simp only [holdsOf, List.getElem_map, List.getElem_range, List.getElem_set, getD_set, hip, hic, and_true]
    split <;> rfl

/-- **`reader_initialize`** is the model's `readerInit` (given room in the arrays for one more reader) -/
theorem reader_initialize_eq (s : CChannel) (r : CReader)
    (hroom : r.id = 0 → s.holds_n < s.holds_pos.length ∧ s.holds_n < s.holds_cycles.length) :
    abs (reader_initialize s r).2.1 = (readerInit (abs s) (absRd r)).1 ∧
    absRd (reader_initialize s r).2.2 = (readerInit (abs s) (absRd r)).2 ∧
    (reader_initialize s r).2.1.notified = s.notified ∧ (reader_initialize s r).2.1.blocked = s.blocked ∧
    (reader_initialize s r).2.1.data = s.data ∧ (Wf s → Wf (reader_initialize s r).2.1) ∧
    ((reader_initialize s r).2.2.id ≠ 0) ∧ (r.id ≠ 0 → (reader_initialize s r).2 = (s, r)) ∧
    (r.id = 0 → (reader_initialize s r).2.2.id = (reader_initialize s r).2.1.holds_n) := by
  unfold reader_initialize readerInit
  by_cases hid : r.id > 0
  · simp [hid, absRd]; omega
  · have h0 : r.id = 0 := by omega
    obtain ⟨hp, hc⟩ := hroom h0
    simp only [↓reduceIte, absRd, h0, Nat.lt_irrefl]
    have hh : holdsOf (s.holds_pos.set s.holds_n 0) (s.holds_cycles.set s.holds_n s.cycle) (s.holds_n + 1) =
        holdsOf s.holds_pos s.holds_cycles s.holds_n ++ [⟨0, s.cycle⟩] := by
      rw [holdsOf_set _ _ _ _ _ _ (Nat.lt_succ_self _) hp hc, holdsOf_snoc]
      simp [holdsOf_length]
    by_cases h8 : s.holds_n + 1 ≥ 8 <;> simp [h8, abs, hh, holdsOf_length, Wf] <;> omega

theorem holdsOf_set_pos (p c : List Nat) (n i v : Nat) (hi : i < n) (hp : n ≤ p.length) (hc : n ≤ c.length) :
    holdsOf (p.set i v) c n = (holdsOf p c n).set i ⟨v, c.getD i 0⟩ := by
  have hic : i < c.length := by omega
  have e : c.set i (c.getD i 0) = c := by simp [List.getD_eq_getElem?_getD, hic]
  rw [← holdsOf_set p c n i v (c.getD i 0) hi hp hc, e]

/-- **`channel_read_unmap`** is the model's `readUnmap` for every registered reader (`1 ≤ id ≤ n`), every consumed count and every
state; it notifies exactly when the reader was mapped -/
theorem channel_read_unmap_eq (s : CChannel) (r : CReader) (k : Nat) (hw : Wf s) (h1 : 1 ≤ r.id) (h2 : r.id ≤ s.holds_n) :
    abs (channel_read_unmap s r k).1 = (readUnmap (abs s) (absRd r) k).1 ∧
    absRd (channel_read_unmap s r k).2 = (readUnmap (abs s) (absRd r) k).2 ∧
    (channel_read_unmap s r k).1.notified = (if r.state = ChannelState_Mapped then s.notified + 1 else s.notified) ∧
    (channel_read_unmap s r k).1.blocked = s.blocked ∧ (channel_read_unmap s r k).1.data = s.data ∧
    Wf (channel_read_unmap s r k).1 := by
  obtain ⟨wp, wc⟩ := hw
  have hi : r.id - 1 < s.holds_n := by omega
  have hip : r.id - 1 < s.holds_pos.length := by omega
  have hic : r.id - 1 < s.holds_cycles.length := by omega
  unfold channel_read_unmap readUnmap
  by_cases hm : r.state = ChannelState_Mapped
  · have hm' : (absRd r).mapped = true := by simp [absRd, hm]
    simp only [hm, ne_eq, not_true_eq_false, ↓reduceIte, hm', Bool.not_true, Bool.false_eq_true, Nat.zero_add, ite_ite_and]
    have hg : (abs s).holds.getD ((absRd r).id - 1) default = ⟨s.holds_pos.getD (r.id - 1) 0, s.holds_cycles.getD (r.id - 1) 0⟩ :=
      holdsOf_getD _ _ _ _ hi
    rw [hg]
    simp only [get_available_byte_count_eq]
    unfold unmapHold setHold
    generalize hP : s.holds_pos.getD (r.id - 1) 0 = P
    generalize hC : s.holds_cycles.getD (r.id - 1) 0 = Cc
    generalize hL : availBytes (absRd r) ⟨P, Cc⟩ s.high = L
    have hL' : availBytes (absRd r) ⟨P, Cc⟩ (abs s).high = L := hL
    simp only [hL']
    have hmin : (if L < k then L else k) = min L k := by split <;> omega
    simp only [hmin, getD_set, hip, hic, and_self, ↓reduceIte]
    by_cases hk : min L k ≥ L
    · by_cases c : s.head < r.pos ∧ r.pos = s.high
      · have c1 : s.head < s.high := c.2 ▸ c.1
        simp [hk, c.2, c1, abs, absRd, Wf, holdsOf_set, List.set_set, ChannelState_Mapped, ChannelState_Unmapped, hi, wp, wc]
      · simp [hk, c, abs, absRd, Wf, holdsOf_set, ChannelState_Mapped, ChannelState_Unmapped, hi, wp, wc]
    · by_cases c : s.head < P + min L k ∧ P + min L k = s.high
      · have c1 : s.head < s.high := c.2 ▸ c.1
        simp [hk, c.2, c1, abs, absRd, Wf, holdsOf_set, List.set_set, ChannelState_Mapped, ChannelState_Unmapped, hi, wp, wc]
      · simp [-List.getD_eq_getElem?_getD, hk, c, abs, absRd, Wf, holdsOf_set_pos, ChannelState_Mapped,
            ChannelState_Unmapped, hi, wp, wc, hC]
  · have hm' : (absRd r).mapped = false := by simp [absRd, hm]
    simp [hm, hm', Wf, wp, wc]

theorem holdsOf_set_eq_iff (p c : List Nat) (n i : Nat) (h : Hold) (hi : i < n) :
    (holdsOf p c n).set i h = holdsOf p c n ↔ h = ⟨p.getD i 0, c.getD i 0⟩ := by
  have hl : i < (holdsOf p c n).length := by rw [holdsOf_length]; exact hi
  rw [← holdsOf_getD p c n i hi]
  constructor
  · intro e
    rw [← e]
    simp [hl]
  · intro e
    simp [e, hl]

theorem reader_initialize_registered (s : CChannel) (r : CReader) (h : r.id ≠ 0) : reader_initialize s r = (1, s, r) := by
  unfold reader_initialize
  rw [if_pos (by omega)]

theorem reader_initialize_state (s : CChannel) (r : CReader) : (reader_initialize s r).2.2.state = r.state := by
  simp only [reader_initialize, apply_ite Prod.snd, apply_ite CReader.state, ite_self]

/-- `channel_read_map` once `reader_initialize` has left the channel `s1` and the reader `r1`, registered (`1 ≤ id ≤ n`), mapped or
not, against the model's `readMapAt`.  It notifies when it moved the reader's bookmark, and always when it finds the reader mapped. -/
theorem channel_read_map_registered (s s1 : CChannel) (r r1 : CReader) (hri : (reader_initialize s r).2 = (s1, r1))
    (hw : Wf s1) (h1 : r1.id ≠ 0) (h2 : r1.id ≤ s1.holds_n)
    (m : Chan × Rd × Slice) (hm : m = readMapAt (abs s1) (absRd r1) (r1.id - 1)) :
    abs (channel_read_map s r).2.1 = m.1 ∧ absRd (channel_read_map s r).2.2 = m.2.1 ∧
    (channel_read_map s r).1.2 = (channel_read_map s r).1.1 + m.2.2.len ∧
    (m.2.2.len ≠ 0 → (channel_read_map s r).1.1 = s1.data + m.2.2.beg) ∧
    (channel_read_map s r).2.1.blocked = s1.blocked ∧ (channel_read_map s r).2.1.data = s1.data ∧ Wf (channel_read_map s r).2.1 ∧
    (channel_read_map s r).2.1.notified = s1.notified +
      (if r1.state = ChannelState_Mapped ∨ m.1.holds ≠ (abs s1).holds then 1 else 0) := by
  subst hm
  obtain ⟨wp, wc⟩ := hw
  have hi : r1.id - 1 < s1.holds_n := by omega
  have hip : r1.id - 1 < s1.holds_pos.length := by omega
  have hic : r1.id - 1 < s1.holds_cycles.length := by omega
  rcases hri' : reader_initialize s r with ⟨ret, s', r'⟩
  rw [hri'] at hri
  cases hri
  -- with `*pos == head && *cycle == self->cycle` as one test again (`ite_ite_and`) the tests are those of `readMapCore`, in its order
  simp only [channel_read_map, hri', Nat.zero_add, ite_ite_and]
  unfold readMapAt readMapCore setHold
  have hg : (abs s1).holds.getD (r1.id - 1) default = ⟨s1.holds_pos.getD (r1.id - 1) 0, s1.holds_cycles.getD (r1.id - 1) 0⟩ :=
    holdsOf_getD _ _ _ _ hi
  simp only [hg]
  generalize hP : s1.holds_pos.getD (r1.id - 1) 0 = P
  generalize hC : s1.holds_cycles.getD (r1.id - 1) 0 = Cy
  dsimp only [abs, absRd]
  by_cases hm : r1.state = ChannelState_Mapped
  · simp_all [holdsOf_set_eq_iff, abs, Wf, holdsOf_set, ChannelState_Mapped, Channel_Expected_Unmapped_Reader] <;> omega
  · by_cases hPC : P = s1.head ∧ Cy = s1.cycle
    · simp_all [abs, Wf, ChannelState_Mapped]
    · simp only [hPC, ↓reduceIte]
      by_cases hLt : P < s1.head
      · have hnz : ¬ s1.head - P = 0 := by omega
        by_cases hCe : Cy = s1.cycle
        · simp_all [abs, Wf, ChannelState_Mapped] <;> omega
        · simp_all [holdsOf_set_eq_iff, abs, Wf, holdsOf_set, ChannelState_Mapped, Channel_Error] <;> omega
      · simp only [hLt, ↓reduceIte]
        by_cases hC1 : s1.cycle = Cy + 1
        · by_cases hN : s1.high - P = 0
          · by_cases hH : s1.head = 0
            · simp_all [holdsOf_set_eq_iff, abs, Wf, holdsOf_set, ChannelState_Mapped] <;> omega
            · simp_all [holdsOf_set_eq_iff, abs, Wf, holdsOf_set, ChannelState_Mapped] <;> omega
          · simp_all [abs, Wf, ChannelState_Mapped] <;> omega
        · simp_all [holdsOf_set_eq_iff, abs, Wf, holdsOf_set, ChannelState_Mapped, Channel_Error] <;> omega

/-- **`channel_read_map`** against the model's `readMap`, with the exact number of notifications -/
theorem channel_read_map_spec (s : CChannel) (r : CReader) (hw : Wf s)
    (hroom : r.id = 0 → s.holds_n < s.holds_pos.length ∧ s.holds_n < s.holds_cycles.length) (hid : r.id ≤ s.holds_n) :
    abs (channel_read_map s r).2.1 = (readMap (abs s) (absRd r)).1 ∧
    absRd (channel_read_map s r).2.2 = (readMap (abs s) (absRd r)).2.1 ∧
    (channel_read_map s r).1.2 = (channel_read_map s r).1.1 + (readMap (abs s) (absRd r)).2.2.len ∧
    ((readMap (abs s) (absRd r)).2.2.len ≠ 0 → (channel_read_map s r).1.1 = s.data + (readMap (abs s) (absRd r)).2.2.beg) ∧
    (channel_read_map s r).2.1.blocked = s.blocked ∧ (channel_read_map s r).2.1.data = s.data ∧ Wf (channel_read_map s r).2.1 ∧
    (channel_read_map s r).2.1.notified = s.notified +
      (if r.state = ChannelState_Mapped ∨ (readMap (abs s) (absRd r)).1.holds ≠ (readerInit (abs s) (absRd r)).1.holds
       then 1 else 0) := by
  obtain ⟨e1, e2, e3, e4, e5, e6, e7, e8, e9⟩ := reader_initialize_eq s r hroom
  have hid1 : (reader_initialize s r).2.2.id ≤ (reader_initialize s r).2.1.holds_n := by
    by_cases h0 : r.id = 0
    · rw [e9 h0]; exact Nat.le_refl _
    · rw [e8 h0]; exact hid
  have hrm : readMap (abs s) (absRd r) =
      readMapAt (abs (reader_initialize s r).2.1) (absRd (reader_initialize s r).2.2) ((reader_initialize s r).2.2.id - 1) := by
    show _ = readMapAt _ _ ((absRd (reader_initialize s r).2.2).id - 1)
    rw [e1, e2]; rfl
  have a := channel_read_map_registered s _ r _ rfl (e6 hw) e7 hid1 _ hrm
  rw [e1, e3, e4, e5, reader_initialize_state] at a
  exact a

/-- **`channel_read_map`** is the model's `readMap`: same new channel state, same reader record, a region of the model's length
that starts at `data + beg` when it is not empty — for every state and every reader that is unregistered (with room for it) or
registered (`id ≤ n`), mapped or not -/
theorem channel_read_map_eq (s : CChannel) (r : CReader) (hw : Wf s)
    (hroom : r.id = 0 → s.holds_n < s.holds_pos.length ∧ s.holds_n < s.holds_cycles.length) (hid : r.id ≤ s.holds_n) :
    abs (channel_read_map s r).2.1 = (readMap (abs s) (absRd r)).1 ∧
    absRd (channel_read_map s r).2.2 = (readMap (abs s) (absRd r)).2.1 ∧
    (channel_read_map s r).1.2 = (channel_read_map s r).1.1 + (readMap (abs s) (absRd r)).2.2.len ∧
    ((readMap (abs s) (absRd r)).2.2.len ≠ 0 → (channel_read_map s r).1.1 = s.data + (readMap (abs s) (absRd r)).2.2.beg) ∧
    (channel_read_map s r).2.1.blocked = s.blocked ∧ (channel_read_map s r).2.1.data = s.data ∧ Wf (channel_read_map s r).2.1 ∧
    -- a bookmark that moves releases space: the writer is notified (at most once per call)
    ((readMap (abs s) (absRd r)).1.holds ≠ (readerInit (abs s) (absRd r)).1.holds → (channel_read_map s r).2.1.notified = s.notified + 1) ∧
    ((channel_read_map s r).2.1.notified = s.notified ∨ (channel_read_map s r).2.1.notified = s.notified + 1) := by
  obtain ⟨a1, a2, a3, a4, a5, a6, a7, a8⟩ := channel_read_map_spec s r hw hroom hid
  refine ⟨a1, a2, a3, a4, a5, a6, a7, fun h => by rw [a8, if_pos (Or.inr h)], ?_⟩
  rw [a8]
  split
  · exact Or.inr rfl
  · exact Or.inl rfl

/-- within the usage rules (the reader is not mapped) `channel_read_map` notifies **exactly** when it moved the reader's bookmark —
the condition under which the interleaving model's `notifies` lets the call end in a `notify` step -/
theorem channel_read_map_notifies_iff (s : CChannel) (r : CReader) (hw : Wf s)
    (hroom : r.id = 0 → s.holds_n < s.holds_pos.length ∧ s.holds_n < s.holds_cycles.length) (hid : r.id ≤ s.holds_n)
    (hun : r.state ≠ ChannelState_Mapped) :
    (channel_read_map s r).2.1.notified =
      s.notified + (if (readMap (abs s) (absRd r)).1.holds ≠ (readerInit (abs s) (absRd r)).1.holds then 1 else 0) := by
  rw [(channel_read_map_spec s r hw hroom hid).2.2.2.2.2.2.2]
  simp only [hun, false_or]

/-! ## the arrays keep their length (they are only ever written element-wise) -/

theorem channel_write_unmap_len (s : CChannel) :
    (channel_write_unmap s).holds_pos.length = s.holds_pos.length ∧
    (channel_write_unmap s).holds_cycles.length = s.holds_cycles.length := by
  unfold channel_write_unmap
  split <;> exact ⟨rfl, rfl⟩

theorem channel_abort_write_len (s : CChannel) :
    (channel_abort_write s).holds_pos.length = s.holds_pos.length ∧
    (channel_abort_write s).holds_cycles.length = s.holds_cycles.length := by
  unfold channel_abort_write
  split <;> exact ⟨rfl, rfl⟩

theorem reader_initialize_len (s : CChannel) (r : CReader) :
    (reader_initialize s r).2.1.holds_pos.length = s.holds_pos.length ∧
    (reader_initialize s r).2.1.holds_cycles.length = s.holds_cycles.length := by
  simp only [reader_initialize, apply_ite Prod.fst, apply_ite Prod.snd, apply_ite CChannel.holds_pos,
    apply_ite CChannel.holds_cycles, apply_ite List.length, List.length_set, ite_self, and_self]

theorem channel_read_unmap_len (s : CChannel) (r : CReader) (k : Nat) :
    (channel_read_unmap s r k).1.holds_pos.length = s.holds_pos.length ∧
    (channel_read_unmap s r k).1.holds_cycles.length = s.holds_cycles.length := by
  simp only [channel_read_unmap, apply_ite Prod.fst, apply_ite CChannel.holds_pos, apply_ite CChannel.holds_cycles,
    apply_ite List.length, List.length_set, ite_self, and_self]

theorem channel_read_map_len (s : CChannel) (r : CReader) :
    (channel_read_map s r).2.1.holds_pos.length = s.holds_pos.length ∧
    (channel_read_map s r).2.1.holds_cycles.length = s.holds_cycles.length := by
  obtain ⟨l1, l2⟩ := reader_initialize_len s r
  rw [← l1, ← l2]
  simp [channel_read_map, apply_ite Prod.snd, apply_ite Prod.fst, apply_ite CChannel.holds_pos, apply_ite CChannel.holds_cycles,
    apply_ite List.length]

end AcqVerif.Channel.Translated
