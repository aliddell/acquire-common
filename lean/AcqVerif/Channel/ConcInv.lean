import AcqVerif.Channel.Conc
import AcqVerif.Channel.InvStep
/-!
# Invariants of the concurrent channel model: the lock, and no lost wake-up

`CReach cap cs`: `cs` is reachable, under **any schedule**, from threads parked at the
start of arbitrary programs over a channel state that is itself reachable by a
well-formed history; each executed call obeys the API's usage rules when it runs,
and only one thread issues writer calls.
-/
namespace AcqVerif.Channel
open AcqVerif

def isWriterOp : Op → Bool
  | .wmap _ => true | .wcommit => true | .wabort => true | _ => false

def hasWriterOp (p : List Op) : Bool := p.any isWriterOp

/-- the call whose body a step of thread `t` would run under the lock, if any -/
def bodyOp (cs : CState) (t : Nat) : Option Op :=
  match (nth cs.threads t).pc, (nth cs.threads t).prog with
  | .lockReq, op :: _ => some op
  | .woken, op :: _ => some op
  | _, _ => none

def stepWf (cs : CState) (t : Nat) : Bool :=
  match bodyOp cs t with
  | some op => op.wf cs.sys
  | none => true

def singleWriter (ths : List Thread) : Prop :=
  ∀ t u, t < ths.length → u < ths.length →
    hasWriterOp (nth ths t).prog = true → hasWriterOp (nth ths u).prog = true → t = u

inductive CReach (cap : Nat) : CState → Prop
  | init (s : Sys) (g : Ghost) (progs : List (List Op)) (h : Reachable cap s g)
      (single : singleWriter (CState.init s progs).threads) : CReach cap (CState.init s progs)
  | step (cs : CState) (t : Nat) (cs' : CState) :
      CReach cap cs → cstep cs t = some cs' → stepWf cs t = true → CReach cap cs'

/-- `true` for the program counters at which the current call must be a `write_map` -/
def Pc.inWait : Pc → Bool
  | .waitEntry => true | .asleep => true | .woken => true | _ => false

structure CInv (cap : Nat) (cs : CState) : Prop where
  sysok : ∃ g, Reachable cap cs.sys g
  single : singleWriter cs.threads
  lock1 : ∀ t, cs.lock = some t → t < cs.threads.length ∧ (nth cs.threads t).pc = .waitEntry
  lock2 : ∀ t, t < cs.threads.length → (nth cs.threads t).pc = .waitEntry → cs.lock = some t
  /-- a thread at the entry of `condition_variable_wait` has just seen its wait condition hold -/
  w1 : ∀ t, t < cs.threads.length → (nth cs.threads t).pc = .waitEntry →
    ∀ m rest, (nth cs.threads t).prog = .wmap m :: rest → writeMap cs.sys.c m = .block
  /-- **no lost wake-up**: a sleeping writer's wait condition still holds, or a notification is on its way -/
  w2 : ∀ t, t < cs.threads.length → (nth cs.threads t).pc = .asleep →
    ∀ m rest, (nth cs.threads t).prog = .wmap m :: rest →
      writeMap cs.sys.c m = .block ∨ ∃ u, u < cs.threads.length ∧ (nth cs.threads u).pc = .notify

/-! ## small facts -/

theorem nth_map {α β : Type} [Inhabited α] [Inhabited β] (l : List α) (f : α → β) (i : Nat) (h : i < l.length) :
    nth (l.map f) i = f (nth l i) := by
  simp [nth, List.getD, h]

theorem nth_set_cases {α : Type} [Inhabited α] (l : List α) (t x : Nat) (v : α) (ht : t < l.length) :
    (x = t ∧ nth (l.set t v) x = v) ∨ (x ≠ t ∧ nth (l.set t v) x = nth l x) := by
  by_cases e : x = t
  · subst e; exact .inl ⟨rfl, nth_set_eq l x v ht⟩
  · exact .inr ⟨e, nth_set_ne l t x v (Ne.symm e)⟩

theorem settle_pc (s : Sys) (p : List Op) : (settle s p).pc = .lockReq ∨ (settle s p).pc = .done := by
  induction p with
  | nil => right; rfl
  | cons op rest ih => unfold settle; split; exact ih; left; rfl

theorem settle_suffix (s : Sys) (p : List Op) : ∃ pre, p = pre ++ (settle s p).prog := by
  induction p with
  | nil => exact ⟨[], rfl⟩
  | cons op rest ih =>
    unfold settle; split
    · obtain ⟨pre, e⟩ := ih; exact ⟨op :: pre, by rw [List.cons_append, ← e]⟩
    · exact ⟨[], rfl⟩

theorem hasWriterOp_suffix (pre p : List Op) (h : hasWriterOp p = true) : hasWriterOp (pre ++ p) = true := by
  simp only [hasWriterOp, List.any_append, Bool.or_eq_true] at *; right; exact h

theorem hasWriterOp_settle (s : Sys) (p : List Op) (h : hasWriterOp (settle s p).prog = true) :
    hasWriterOp p = true := by
  obtain ⟨pre, e⟩ := settle_suffix s p
  rw [e]; exact hasWriterOp_suffix _ _ h

theorem hasWriterOp_tail (op : Op) (rest : List Op) (h : hasWriterOp rest = true) : hasWriterOp (op :: rest) = true :=
  hasWriterOp_suffix [op] rest h

theorem hasWriterOp_head (op : Op) (rest : List Op) (h : isWriterOp op = true) : hasWriterOp (op :: rest) = true := by
  simp [hasWriterOp, h]

theorem settle_not_inWait (s : Sys) (p : List Op) : (settle s p).pc.inWait = false := by
  rcases settle_pc s p with e | e <;> rw [e] <;> rfl

/-- replacing thread `u` by one whose program is a suffix keeps the single-writer rule -/
theorem singleWriter_set (ths : List Thread) (u : Nat) (th : Thread) (hu : u < ths.length)
    (hs : singleWriter ths) (hsub : hasWriterOp th.prog = true → hasWriterOp (nth ths u).prog = true) :
    singleWriter (ths.set u th) := by
  have old : ∀ x, hasWriterOp (nth (ths.set u th) x).prog = true → hasWriterOp (nth ths x).prog = true := by
    intro x wx
    rcases nth_set_cases ths u x th hu with ⟨rfl, e⟩ | ⟨_, e⟩ <;> rw [e] at wx
    · exact hsub wx
    · exact wx
  intro a b ha hb wa wb
  rw [List.length_set] at ha hb
  exact hs a b ha hb (old a wa) (old b wb)

/-! ## refusal and drained readers -/

/-- when `channel_write_map` waits -/
theorem writeMap_block_iff (c : Chan) (n : Nat) :
    writeMap c n = .block ↔ n < c.cap ∧ c.holds ≠ [] ∧ c.accepting = true ∧ nextWrite c n = .no := by
  unfold writeMap
  by_cases hn : n ≥ c.cap
  · rw [if_pos hn]; exact ⟨nofun, fun h => absurd h.1 (Nat.not_lt.2 hn)⟩
  rw [if_neg hn]
  cases hh : c.holds with
  | nil => simp only [List.isEmpty_nil, if_true]; exact ⟨fun h => by (split at h <;> cases h), fun h => absurd rfl h.2.1⟩
  | cons a l =>
  simp only [List.isEmpty_cons, Bool.false_eq_true, if_false]
  cases c.accepting
  · exact ⟨nofun, fun h => nomatch h.2.2.1⟩
  · cases nextWrite c n <;> simp [Nat.lt_of_not_ge hn]

/-- **C03.4** — once writes are refused, `channel_write_map` never waits: it returns "no region". -/
theorem writeMap_refused (c : Chan) (n : Nat) (h : c.accepting = false) : writeMap c n ≠ .block := by
  intro hb
  have := ((writeMap_block_iff c n).1 hb).2.2.1
  rw [h] at this; cases this

theorem minHold_append_one (x : Hold) (l : List Hold) (y : Hold) :
    minHold x (l ++ [y]) = if (minHold x l).gt y then y else minHold x l := by
  induction l generalizing x with
  | nil => simp only [List.nil_append, minHold]; rfl
  | cons z zs ih => simp only [List.cons_append, minHold]; split <;> exact ih _

theorem readerMin_append_one (l : List Hold) (y : Hold) (hne : l ≠ []) :
    readerMin (l ++ [y]) = if (readerMin l).gt y then y else readerMin l := by
  cases l with
  | nil => exact absurd rfl hne
  | cons a t => exact minHold_append_one a t y

/-- a registered reader joining cannot make a blocked write admissible (it only adds a constraint) -/
theorem join_keeps_block {s : Sys} {g : Ghost} (h : Inv s g) (m : Nat)
    (hb : writeMap s.c m = .block) :
    writeMap { s.c with holds := s.c.holds ++ [⟨0, s.c.cycle⟩] } m = .block := by
  obtain ⟨hn, hne, hacc, hnw⟩ := (writeMap_block_iff _ _).1 hb
  refine (writeMap_block_iff _ _).2 ⟨hn, by simp, hacc, ?_⟩
  obtain ⟨k, hk, hke⟩ := exists_nth_of_mem _ _ (readerMin_mem s.c.holds hne)
  have hrel := (h.rd k hk).1.hold
  rw [hke] at hrel
  unfold nextWrite at hnw ⊢
  rw [if_neg (by simp [hacc])] at hnw ⊢
  simp only at hnw ⊢
  rw [readerMin_append_one _ _ hne]
  generalize readerMin s.c.holds = mn at *
  by_cases hgt : mn.gt ⟨0, s.c.cycle⟩ = true
  · -- the new bookmark is the minimum: the old one was `(p, cycle)` with `0 < p ≤ head`
    rw [if_pos hgt]
    dsimp only
    simp only [Hold.gt, decide_eq_true_eq] at hgt
    unfold HoldRel at hrel
    rw [if_neg (by omega), if_neg (by omega)] at hnw
    by_cases h1 : m ≤ s.c.cap - s.c.head
    · rw [if_pos h1] at hnw; cases hnw
    by_cases h2 : m ≤ mn.pos
    · rw [if_neg h1, if_pos h2] at hnw; cases hnw
    rw [if_neg (by omega), if_neg (by omega), if_neg h1, if_neg (by omega), if_neg (by omega)]
  · rw [if_neg hgt]; exact hnw

/-- **C03.3a** — when every registered reader has caught up with the writer (its bookmark is the
writer's cursor), any request smaller than the capacity is admissible (while writes are accepted). -/
theorem space_when_caught_up (c : Chan) (n : Nat) (hn : n < c.cap)
    (hd : ∀ i, i < c.holds.length → nth c.holds i = ⟨c.head, c.cycle⟩) : writeMap c n ≠ .block := by
  intro hb
  obtain ⟨_, hne, hacc, hnw⟩ := (writeMap_block_iff _ _).1 hb
  obtain ⟨k, hk, hke⟩ := exists_nth_of_mem _ _ (readerMin_mem c.holds hne)
  unfold nextWrite at hnw
  rw [← hke, hd k hk, if_neg (by simp [hacc])] at hnw
  dsimp only at hnw
  rw [if_neg (Nat.lt_irrefl _), if_neg (by omega)] at hnw
  by_cases h1 : n ≤ c.cap - c.head
  · rw [if_pos h1] at hnw; cases hnw
  by_cases h2 : n ≤ c.head
  · rw [if_neg h1, if_pos h2] at hnw; cases hnw
  rw [if_neg h1, if_neg h2, if_pos rfl, if_pos hn] at hnw
  cases hnw
end AcqVerif.Channel
