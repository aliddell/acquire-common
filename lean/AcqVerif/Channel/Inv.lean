import AcqVerif.Channel.Sys
import AcqVerif.Util.Nth
/-!
# The channel invariant

`Ghost` carries the part of the specification state that is a function (what each
buffer byte holds, as an index into the committed stream) and, per reader, the
contents of the bytes it has consumed so far.  `Inv` relates cursors, ghost stream
indices and memory contents; it is preserved by every well-formed operation
(`Inv.step`, in `InvStep.lean`).
-/
namespace AcqVerif.Channel
open AcqVerif

abbrev MemF := Nat → Option Nat

structure Ghost where
  /-- buffer offset ↦ index in the committed stream of the byte stored there
      (`none`: never committed, or handed to the writer since) -/
  mem : MemF := fun _ => none
  /-- per reader: what the consumed bytes contained, in order of consumption -/
  seen : List (List (Option Nat)) := []

/-- ghost effect of one operation executed in state `s` -/
def gstep (s : Sys) (g : Ghost) : Op → Ghost
  | .wmap n =>
    match writeMap s.c n with
    | .ok beg _ => { g with mem := fun o => if beg ≤ o ∧ o < beg + n then none else g.mem o }
    | _ => g
  | .wcommit =>
    if s.c.accepting then
      { g with mem := fun o => if s.c.head ≤ o ∧ o < s.c.mapped then some (s.total + (o - s.c.head)) else g.mem o }
    else g
  | .wabort => g
  | .accept _ => g
  | .join => { g with seen := g.seen ++ [[]] }
  | .rmap _ => g
  | .runmap i k =>
    match s.rds[i]? with
    | none => g
    | some r =>
      if r.mapped then
        let h := nth s.c.holds i
        let len := availBytes r h s.c.high
        { g with seen := g.seen.set i (nth g.seen i ++ (List.range (min len k)).map fun j => g.mem (h.pos + j)) }
      else g

def grun (s : Sys) (g : Ghost) : List Op → Ghost
  | [] => g
  | op :: ops => grun (step s op).1 (gstep s g op) ops

/-- relation between one reader's hold, its ghost stream index, and the writer -/
def HoldRel (c : Chan) (total : Nat) (h : Hold) (ix : Nat) : Prop :=
  (h.cyc = c.cycle ∧ h.pos ≤ c.head ∧ ix + (c.head - h.pos) = total) ∨
  (h.cyc + 1 = c.cycle ∧ c.mapped ≤ h.pos ∧ h.pos ≤ c.high ∧ ix + (c.high - h.pos) + c.head = total)

/-- relation between a mapped reader handle and its hold -/
def MappedRel (c : Chan) (h : Hold) (r : Rd) : Prop :=
  (r.cyc = h.cyc ∧ h.pos < r.pos ∧ (h.cyc = c.cycle → r.pos ≤ c.head) ∧ (h.cyc + 1 = c.cycle → r.pos ≤ c.high)) ∨
  (r.cyc = h.cyc + 1 ∧ r.pos = 0 ∧ h.pos < c.high ∧ h.cyc + 1 = c.cycle)

/-- everything the invariant says about reader number `i` -/
structure RInv (c : Chan) (total : Nat) (mem : MemF) (h : Hold) (r : Rd) (ix j : Nat)
    (seen : List (Option Nat)) (i : Nat) : Prop where
  hold : HoldRel c total h ix
  /-- the part of the previous lap this reader still needs is intact -/
  prev : h.cyc + 1 = c.cycle → ∀ o, h.pos ≤ o → o < c.high → mem o = some (total - c.head - (c.high - o))
  id : r.id = i + 1
  st : r.status = 0
  mapped : r.mapped = true → MappedRel c h r
  /-- the consumed bytes are exactly stream positions `j, j+1, …, ix-1` -/
  seen_ok : seen = (List.range' j (ix - j)).map some
  jle : j ≤ ix

structure Inv (s : Sys) (g : Ghost) : Prop where
  hm : s.c.head ≤ s.c.mapped
  mc : s.c.mapped ≤ s.c.cap
  hc : s.c.high ≤ s.c.cap
  ht : s.c.head ≤ s.total
  l_idx : s.idx.length = s.c.holds.length
  l_rds : s.rds.length = s.c.holds.length
  l_join : s.join.length = s.c.holds.length
  l_seen : g.seen.length = s.c.holds.length
  /-- the committed part of the current lap is intact -/
  cur : ∀ o, o < s.c.head → g.mem o = some (s.total - (s.c.head - o))
  b_total : s.total ∈ s.bounds
  b_lap : s.total - s.c.head ∈ s.bounds
  b_le : ∀ b ∈ s.bounds, b ≤ s.total
  pend : s.pending = true → s.wbeg = s.c.head ∧ s.wbeg + s.wlen = s.c.mapped
  rd : ∀ i, i < s.c.holds.length →
    RInv s.c s.total g.mem (nth s.c.holds i) (nth s.rds i) (nth s.idx i) (nth s.join i) (nth g.seen i) i
    ∧ nth s.join i ∈ s.bounds
  /-- whatever lies at or beyond `head` is at least one lap old -/
  old : ∀ o x, g.mem o = some x → s.c.head ≤ o →
    (o < s.c.high → x + (s.c.high - o) + s.c.head ≤ s.total) ∧ (s.c.high ≤ o → x + s.c.high + s.c.head < s.total)

/-! ## `get_available_byte_count` -/

theorem availBytes_same (r : Rd) (h : Hold) (high : Nat) (lt : h.pos < r.pos) :
    availBytes r h high = r.pos - h.pos := by
  unfold availBytes
  rw [if_neg (by omega), if_neg (by omega)]

theorem availBytes_next (r : Rd) (h : Hold) (high : Nat) (e : r.cyc = h.cyc + 1) (z : r.pos = 0) :
    availBytes r h high = high - h.pos := by
  unfold availBytes
  rw [if_neg (by omega), if_pos z]

/-- **What a mapped region contains**: byte `j` of reader `r`'s mapped region is byte `ix + j` of the
committed stream. -/
theorem region_bytes (c : Chan) (total : Nat) (mem : MemF) (h : Hold) (r : Rd) (ix : Nat)
    (hold : HoldRel c total h ix)
    (prev : h.cyc + 1 = c.cycle → ∀ o, h.pos ≤ o → o < c.high → mem o = some (total - c.head - (c.high - o)))
    (cur : ∀ o, o < c.head → mem o = some (total - (c.head - o)))
    (m : MappedRel c h r) :
    ∀ j, j < availBytes r h c.high → mem (h.pos + j) = some (ix + j) := by
  intro j hj
  rcases m with ⟨_, m2, m3, m4⟩ | ⟨m1, m2, _, _⟩
  · rw [availBytes_same r h c.high m2] at hj
    rcases hold with ⟨a1, _, _⟩ | ⟨a1, _, _, _⟩
    · have := m3 a1
      rw [cur (h.pos + j) (by omega)]; congr 1; omega
    · have := m4 a1
      rw [prev a1 (h.pos + j) (by omega) (by omega)]; congr 1; omega
  · rw [availBytes_next r h c.high m1 m2] at hj
    rcases hold with ⟨_, _, _⟩ | ⟨a1, _, _, _⟩
    · omega
    · rw [prev a1 (h.pos + j) (by omega) (by omega)]; congr 1; omega

/-- consuming `m` bytes that are stream positions `ix, ix + 1, …` extends the consumed positions `j, …, ix - 1` by them -/
theorem seen_extend {mem : MemF} {p ix j m : Nat} (hb : ∀ t, t < m → mem (p + t) = some (ix + t)) (hj : j ≤ ix) :
    (List.range' j (ix - j)).map some ++ (List.range m).map (fun t => mem (p + t)) =
      (List.range' j (ix + m - j)).map some := by
  have e : (List.range m).map (fun t => mem (p + t)) = (List.range' ix m).map some := by
    rw [List.range'_eq_map_range, List.map_map]
    exact List.map_congr_left fun t ht => hb t (List.mem_range.mp ht)
  have a := @List.range'_append_1 j (ix - j) m
  rw [show j + (ix - j) = ix by omega] at a
  rw [e, ← List.map_append, a]
  congr 2; omega

/-- a bookmark on the same lap as `h` and not before it inherits what `h` still needs of the previous lap -/
theorem prev_of_le {c : Chan} {total : Nat} {mem : MemF} {h h' : Hold}
    (prev : h.cyc + 1 = c.cycle → ∀ o, h.pos ≤ o → o < c.high → mem o = some (total - c.head - (c.high - o)))
    (hh : h'.cyc + 1 = c.cycle → h'.cyc = h.cyc ∧ h.pos ≤ h'.pos) :
    h'.cyc + 1 = c.cycle → ∀ o, h'.pos ≤ o → o < c.high → mem o = some (total - c.head - (c.high - o)) := by
  intro hc o ho1 ho2
  obtain ⟨e1, e2⟩ := hh hc
  exact prev (e1 ▸ hc) o (Nat.le_trans e2 ho1) ho2

/-- a bookmark at the very end of the previous lap is the same stream position as the start of the writer's lap -/
theorem HoldRel.roll {c : Chan} {total : Nat} {h : Hold} {ix : Nat} (hr : HoldRel c total h ix)
    (hroll : c.head < h.pos ∧ h.pos = c.high) : HoldRel c total ⟨0, h.cyc + 1⟩ ix := by
  rcases hr with ⟨_, b, _⟩ | ⟨a, _, _, e⟩
  · omega
  · exact Or.inl ⟨a, Nat.zero_le _, by show ix + (c.head - 0) = total; omega⟩

/-- the bookmark after `k ≤ length` consumed bytes, before `channel_read_unmap` looks whether it sits at the end of the lap -/
theorem advance_spec (c : Chan) (total : Nat) (h : Hold) (r : Rd) (ix k : Nat) (hk : k ≤ availBytes r h c.high)
    (hold : HoldRel c total h ix) (m : MappedRel c h r) (h1 : Hold)
    (e : h1 = if k ≥ availBytes r h c.high then ⟨r.pos, r.cyc⟩ else ⟨h.pos + k, h.cyc⟩) :
    HoldRel c total h1 (ix + k) ∧ (h1.cyc + 1 = c.cycle → h1.cyc = h.cyc ∧ h.pos ≤ h1.pos) := by
  subst e
  rcases m with ⟨e2, e3, m3, m4⟩ | ⟨e2, e3, e4, e5⟩
  · -- the region ends on the bookmark's own lap: consuming all of it puts the bookmark at the handle's `pos`
    rw [availBytes_same r h c.high e3] at hk ⊢
    have hh : (if k ≥ r.pos - h.pos then (⟨r.pos, r.cyc⟩ : Hold) else ⟨h.pos + k, h.cyc⟩) = ⟨h.pos + k, h.cyc⟩ := by
      split
      · rw [e2, show r.pos = h.pos + k by omega]
      · rfl
    rw [hh]
    refine ⟨?_, fun _ => ⟨rfl, Nat.le_add_right _ _⟩⟩
    rcases hold with ⟨a, b, e⟩ | ⟨a, b, b', e⟩
    · have := m3 a
      exact Or.inl ⟨a, by show h.pos + k ≤ c.head; omega, by show ix + k + (c.head - (h.pos + k)) = total; omega⟩
    · have := m4 a
      exact Or.inr ⟨a, by show c.mapped ≤ h.pos + k; omega, by show h.pos + k ≤ c.high; omega,
        by show ix + k + (c.high - (h.pos + k)) + c.head = total; omega⟩
  · -- the region is the rest of the previous lap: consuming all of it puts the bookmark at the start of the writer's lap
    rw [availBytes_next r h c.high e2 e3] at hk ⊢
    rcases hold with ⟨a, _, _⟩ | ⟨a, b, b', e⟩
    · omega
    · split
      · exact ⟨Or.inl ⟨by show r.cyc = c.cycle; omega, by show r.pos ≤ c.head; omega, by show ix + k + (c.head - r.pos) = total; omega⟩,
          fun hc => by simp only at hc; omega⟩
      · exact ⟨Or.inr ⟨a, by show c.mapped ≤ h.pos + k; omega, by show h.pos + k ≤ c.high; omega,
          by show ix + k + (c.high - (h.pos + k)) + c.head = total; omega⟩, fun _ => ⟨rfl, Nat.le_add_right _ _⟩⟩

/-- the new hold after `channel_read_unmap` again satisfies the hold relation, with the ghost index
advanced by the number of consumed bytes -/
theorem unmapHold_spec (c : Chan) (total : Nat) (mem : MemF) (h : Hold) (r : Rd) (ix k : Nat)
    (hold : HoldRel c total h ix)
    (prev : h.cyc + 1 = c.cycle → ∀ o, h.pos ≤ o → o < c.high → mem o = some (total - c.head - (c.high - o)))
    (m : MappedRel c h r) :
    HoldRel c total (unmapHold c r h k) (ix + min (availBytes r h c.high) k) ∧
    ((unmapHold c r h k).cyc + 1 = c.cycle → ∀ o, (unmapHold c r h k).pos ≤ o → o < c.high →
        mem o = some (total - c.head - (c.high - o))) := by
  unfold unmapHold
  simp only
  obtain ⟨a1, a2⟩ := advance_spec c total h r ix (min (availBytes r h c.high) k) (Nat.min_le_left _ _) hold m _ rfl
  generalize (if min (availBytes r h c.high) k ≥ availBytes r h c.high then (⟨r.pos, r.cyc⟩ : Hold)
    else ⟨h.pos + min (availBytes r h c.high) k, h.cyc⟩) = h1 at a1 a2 ⊢
  by_cases hroll : c.head < h1.pos ∧ h1.pos = c.high
  · rw [if_pos hroll]
    refine ⟨a1.roll hroll, fun hc => ?_⟩
    rcases a1 with ⟨_, b, _⟩ | ⟨a, _, _, _⟩
    · omega
    · simp only at hc; omega
  · rw [if_neg hroll]
    exact ⟨a1, prev_of_le prev a2⟩

/-! ## `reader_min` -/

/-- `minHold m l` is one of `m :: l`, and none of them comes before it -/
theorem minHold_spec (m : Hold) (l : List Hold) :
    minHold m l ∈ m :: l ∧
    ∀ x ∈ m :: l, (minHold m l).cyc < x.cyc ∨ ((minHold m l).cyc = x.cyc ∧ (minHold m l).pos ≤ x.pos) := by
  induction l generalizing m with
  | nil =>
    refine ⟨List.mem_singleton.mpr rfl, fun x hx => ?_⟩
    rw [List.mem_singleton.mp hx]; exact Or.inr ⟨rfl, Nat.le_refl _⟩
  | cons h t ih =>
    simp only [minHold]
    split
    · -- `h` is before `m`: the minimum of `h :: t` is before `m` too
      rename_i hg
      obtain ⟨a, b⟩ := ih h
      refine ⟨List.mem_cons_of_mem _ a, fun x hx => ?_⟩
      rcases List.mem_cons.mp hx with rfl | hx
      · have := b h List.mem_cons_self; simp [Hold.gt] at hg; omega
      · exact b x hx
    · rename_i hg
      obtain ⟨a, b⟩ := ih m
      refine ⟨?_, fun x hx => ?_⟩
      · rcases List.mem_cons.mp a with e | e
        · rw [e]; exact List.mem_cons_self
        · exact List.mem_cons_of_mem _ (List.mem_cons_of_mem _ e)
      · rcases List.mem_cons.mp hx with rfl | hx
        · exact b _ List.mem_cons_self
        · rcases List.mem_cons.mp hx with rfl | hx
          · have := b m List.mem_cons_self; simp [Hold.gt] at hg; omega
          · exact b x (List.mem_cons_of_mem _ hx)

theorem readerMin_mem (l : List Hold) (hne : l ≠ []) : readerMin l ∈ l := by
  cases l with
  | nil => exact absurd rfl hne
  | cons h t => exact (minHold_spec h t).1

theorem readerMin_le (l : List Hold) : ∀ x ∈ l,
    (readerMin l).cyc < x.cyc ∨ ((readerMin l).cyc = x.cyc ∧ (readerMin l).pos ≤ x.pos) := by
  cases l with
  | nil => simp
  | cons h t => exact (minHold_spec h t).2

/-! ## `next_write` -/

/-- the four ways `next_write` finds room, in terms of the minimal bookmark `m` -/
theorem nextWrite_at (c : Chan) (n b : Nat) (w : Bool) (h : nextWrite c n = .at b w) (m : Hold) (hm : readerMin c.holds = m) :
    (b = c.head ∧ w = false ∧ c.head < m.pos ∧ n ≤ m.pos - c.head) ∨
    (¬ c.head < m.pos ∧ ¬ (m.pos = c.head ∧ c.cycle = m.cyc + 1) ∧
      ((b = c.head ∧ w = false ∧ n ≤ c.cap - c.head) ∨
       (b = 0 ∧ w = false ∧ ¬ n ≤ c.cap - c.head ∧ n ≤ m.pos) ∨
       (b = 0 ∧ w = true ∧ ¬ n ≤ c.cap - c.head ∧ ¬ n ≤ m.pos ∧ m.pos = c.head ∧ n < c.cap))) := by
  unfold nextWrite at h
  rw [hm] at h
  cases ha : c.accepting with
  | false => simp [ha] at h
  | true =>
    simp only [ha, Bool.not_true, Bool.false_eq_true, ↓reduceIte] at h
    by_cases h1 : c.head < m.pos
    · by_cases h2 : n ≤ m.pos - c.head
      · simp only [h1, h2, ↓reduceIte, NW.at.injEq] at h
        exact Or.inl ⟨h.1.symm, h.2.symm, h1, h2⟩
      · simp [h1, h2] at h
    · by_cases h3 : m.pos = c.head ∧ c.cycle = m.cyc + 1
      · simp [h3] at h
      · refine Or.inr ⟨h1, h3, ?_⟩
        by_cases h4 : n ≤ c.cap - c.head
        · simp only [h1, h3, h4, ↓reduceIte, NW.at.injEq] at h
          exact Or.inl ⟨h.1.symm, h.2.symm, h4⟩
        · by_cases h5 : n ≤ m.pos
          · simp only [h1, h3, h4, h5, ↓reduceIte, NW.at.injEq] at h
            exact Or.inr (Or.inl ⟨h.1.symm, h.2.symm, h4, h5⟩)
          · by_cases h6 : m.pos = c.head
            · by_cases h7 : n < c.cap
              · simp only [h1, h3, h4, h5, if_pos h6, h7, ↓reduceIte, NW.at.injEq] at h
                exact Or.inr (Or.inr ⟨h.1.symm, h.2.symm, h4, h5, h6, h7⟩)
              · simp [h1, h3, h4, h5, h7] at h
            · simp [h1, h4, h5, h6] at h

/-- What `nextWrite = .at b w` says about *every* reader: the three placements. -/
theorem nextWrite_spec (c : Chan) (total : Nat) (idx : List Nat) (n b : Nat) (w : Bool)
    (hn : n < c.cap) (h1 : c.head ≤ c.mapped) (h2 : c.mapped ≤ c.cap) (hhc : c.high ≤ c.cap) (hne : c.holds ≠ [])
    (hall : ∀ i, i < c.holds.length → HoldRel c total (nth c.holds i) (nth idx i))
    (hnw : nextWrite c n = .at b w) :
    (b = c.head ∧ w = false ∧ c.head + n ≤ c.cap ∧
      ∀ i, i < c.holds.length → (nth c.holds i).cyc + 1 = c.cycle → c.head + n ≤ (nth c.holds i).pos) ∨
    (b = 0 ∧ c.head ≠ 0 ∧ w = false ∧
      ∀ i, i < c.holds.length → (nth c.holds i).cyc = c.cycle ∧ n ≤ (nth c.holds i).pos) ∨
    (b = 0 ∧ c.head ≠ 0 ∧ w = true ∧
      ∀ i, i < c.holds.length → (nth c.holds i).cyc = c.cycle ∧ (nth c.holds i).pos = c.head) := by
  have hmin_le : ∀ i, i < c.holds.length →
      (readerMin c.holds).cyc < (nth c.holds i).cyc ∨
      ((readerMin c.holds).cyc = (nth c.holds i).cyc ∧ (readerMin c.holds).pos ≤ (nth c.holds i).pos) :=
    fun i hi => readerMin_le _ _ (nth_mem _ _ hi)
  obtain ⟨k, hk, hke⟩ := exists_nth_of_mem _ _ (readerMin_mem c.holds hne)
  have hmin_ok := hall k hk
  rw [hke] at hmin_ok
  generalize hm : readerMin c.holds = m at *
  have hat := nextWrite_at c n b w hnw m hm
  unfold HoldRel at hmin_ok hall
  rcases hat with ⟨rfl, rfl, c1, c2⟩ | ⟨c1, c2, ⟨rfl, rfl, c3⟩ | ⟨rfl, rfl, c3, c4⟩ | ⟨rfl, rfl, c3, c4, c5, c6⟩⟩
  · refine Or.inl ⟨rfl, rfl, by omega, fun i hi hprev => ?_⟩
    have := hmin_le i hi; have := hall i hi; omega
  · refine Or.inl ⟨rfl, rfl, by omega, fun i hi hprev => ?_⟩
    have := hmin_le i hi; have := hall i hi; omega
  · refine Or.inr (Or.inl ⟨rfl, by omega, rfl, fun i hi => ?_⟩)
    have := hmin_le i hi; have := hall i hi; omega
  · refine Or.inr (Or.inr ⟨rfl, by omega, rfl, fun i hi => ?_⟩)
    have := hmin_le i hi; have := hall i hi; omega

end AcqVerif.Channel
