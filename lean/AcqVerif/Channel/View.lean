import AcqVerif.Channel.Use
/-!
# The channel as its users see it

`cv s` collects what the stages of the pipeline reason with — is a write pending and how long, how many bytes are
committed, and for the first two readers (in the runtime: the sink's and the monitoring client's) whether they hold a
mapped region, their stream position and the length of their region. Each lemma gives the view after one operation
as an update of the view before it, for states reached by well-formed histories (`Ok`).
-/
namespace AcqVerif.Channel
open AcqVerif AcqVerif.C02

structure CV where
  pending : Bool
  wlen : Nat
  total : Nat
  nrd : Nat
  m0 : Bool
  m1 : Bool
  i0 : Nat
  i1 : Nat
  l0 : Nat
  l1 : Nat
  acc : Bool
deriving DecidableEq, Repr

def cv (s : Sys) : CV :=
  { pending := s.pending, wlen := s.wlen, total := s.total, nrd := s.rds.length,
    m0 := (nth s.rds 0).mapped, m1 := (nth s.rds 1).mapped, i0 := nth s.idx 0, i1 := nth s.idx 1,
    l0 := regionLen s 0, l1 := regionLen s 1, acc := s.c.accepting }

/-- `channel_write_map(n)` that did not hand out a region leaves the channel as it was -/
theorem cv_wmap_fail (s : Sys) (n : Nat) (h : ∀ b, (step s (.wmap n)).2 ≠ .wok b) : (step s (.wmap n)).1 = s := by
  simp only [step] at h ⊢
  split <;> simp_all

theorem cv_wmap_ok {s : Sys} (h : Ok s) (n b : Nat) (ho : (step s (.wmap n)).2 = .wok b) :
    Ok (step s (.wmap n)).1 ∧ cv (step s (.wmap n)).1 = { pending := true, wlen := n, total := (cv s).total, nrd := (cv s).nrd, m0 := (cv s).m0, m1 := (cv s).m1, i0 := (cv s).i0, i1 := (cv s).i1, l0 := (cv s).l0, l1 := (cv s).l1, acc := (cv s).acc } := by
  have hwf : (Op.wmap n).wf s = true := rfl
  refine ⟨h.step _ hwf, ?_⟩
  obtain ⟨cap, g, hr⟩ := h
  obtain ⟨a1, a2, a3, a4, a5, a6⟩ := wmap_ok hr n b hwf ho
  have hacc := (step_cap_accepting s (.wmap n)).2 fun _ => nofun
  unfold cv
  rw [a1, a2, a3, a4, a5, a6 0, a6 1, hacc]

theorem cv_wcommit {s : Sys} (h : Ok s) (hp : (cv s).pending = true) :
    Ok (step s .wcommit).1 ∧
    cv (step s .wcommit).1 = { pending := false, wlen := (cv s).wlen, total := (cv s).total + (if (cv s).acc then (cv s).wlen else 0), nrd := (cv s).nrd, m0 := (cv s).m0, m1 := (cv s).m1, i0 := (cv s).i0, i1 := (cv s).i1, l0 := (cv s).l0, l1 := (cv s).l1, acc := (cv s).acc } := by
  replace hp : s.pending = true := hp
  have hwf : Op.wcommit.wf s = true := rfl
  refine ⟨h.step _ hwf, ?_⟩
  obtain ⟨cap, g, hr⟩ := h
  obtain ⟨a1, a3, a4, a5, a6⟩ := wcommit_spec hr hp
  have hw : (step s .wcommit).1.wlen = s.wlen := by simp only [step]; split <;> rfl
  have hacc := (step_cap_accepting s .wcommit).2 fun _ => nofun
  unfold cv
  rw [a1, a3, a4, a5, a6 0, a6 1, hw, hacc]

theorem cv_wabort {s : Sys} (h : Ok s) (hp : (cv s).pending = true) :
    Ok (step s .wabort).1 ∧ cv (step s .wabort).1 = { pending := false, wlen := (cv s).wlen, total := (cv s).total, nrd := (cv s).nrd, m0 := (cv s).m0, m1 := (cv s).m1, i0 := (cv s).i0, i1 := (cv s).i1, l0 := (cv s).l0, l1 := (cv s).l1, acc := (cv s).acc } := by
  replace hp : s.pending = true := hp
  have hwf : Op.wabort.wf s = true := by simp [Op.wf, hp]
  refine ⟨h.step _ hwf, ?_⟩
  obtain ⟨cap, g, hr⟩ := h
  obtain ⟨a1, a3, a4, a5, a6⟩ := wabort_spec hr hwf
  have hacc := (step_cap_accepting s .wabort).2 fun _ => nofun
  unfold cv
  rw [a1, a3, a4, a5, a6 0, a6 1, hacc]
  rfl

theorem cv_accept {s : Sys} (h : Ok s) (b : Bool) :
    Ok (step s (.accept b)).1 ∧ cv (step s (.accept b)).1 = { pending := (cv s).pending, wlen := (cv s).wlen, total := (cv s).total, nrd := (cv s).nrd, m0 := (cv s).m0, m1 := (cv s).m1, i0 := (cv s).i0, i1 := (cv s).i1, l0 := (cv s).l0, l1 := (cv s).l1, acc := b } :=
  ⟨h.step _ rfl, rfl⟩

/-- length of the region a read returned -/
def sliceLen : Out → Nat
  | .slice _ len _ => len
  | _ => 0

theorem cv_rmap0 {s : Sys} (h : Ok s) (hn : 1 ≤ (cv s).nrd) (hm : (cv s).m0 = false) :
    Ok (step s (.rmap 0)).1 ∧
    (sliceLen (step s (.rmap 0)).2 = 0 → (cv s).i0 = (cv s).total) ∧ (cv s).i0 + sliceLen (step s (.rmap 0)).2 ≤ (cv s).total ∧
    cv (step s (.rmap 0)).1 = { pending := (cv s).pending, wlen := (cv s).wlen, total := (cv s).total, nrd := (cv s).nrd, m0 := decide (0 < sliceLen (step s (.rmap 0)).2), m1 := (cv s).m1, i0 := (cv s).i0, i1 := (cv s).i1, l0 := sliceLen (step s (.rmap 0)).2, l1 := (cv s).l1, acc := (cv s).acc } := by
  replace hn : 1 ≤ s.rds.length := hn
  replace hm : (nth s.rds 0).mapped = false := hm
  have hwf : (Op.rmap 0).wf s = true := by simp [Op.wf, getElem?_eq_some_nth _ _ hn, hm]
  refine ⟨h.step _ hwf, ?_⟩
  obtain ⟨cap, g, hr⟩ := h
  obtain ⟨beg, len, e, a1, a2, a3, a4, a5, a6, a7, a8, a9, a10, a11⟩ := rmap_spec hr 0 hwf
  rw [show sliceLen (step s (.rmap 0)).2 = len by rw [e]; rfl]
  refine ⟨a1, a2, ?_⟩
  unfold cv
  rw [a3, a4, a5, a6, a7, a8, a9, (a10 1 (by omega)).1, (a10 1 (by omega)).2, a11]

theorem cv_rmap1 {s : Sys} (h : Ok s) (hn : 2 ≤ (cv s).nrd) (hm : (cv s).m1 = false) :
    Ok (step s (.rmap 1)).1 ∧
    (sliceLen (step s (.rmap 1)).2 = 0 → (cv s).i1 = (cv s).total) ∧ (cv s).i1 + sliceLen (step s (.rmap 1)).2 ≤ (cv s).total ∧
    cv (step s (.rmap 1)).1 = { pending := (cv s).pending, wlen := (cv s).wlen, total := (cv s).total, nrd := (cv s).nrd, m0 := (cv s).m0, m1 := decide (0 < sliceLen (step s (.rmap 1)).2), i0 := (cv s).i0, i1 := (cv s).i1, l0 := (cv s).l0, l1 := sliceLen (step s (.rmap 1)).2, acc := (cv s).acc } := by
  replace hn : 2 ≤ s.rds.length := hn
  replace hm : (nth s.rds 1).mapped = false := hm
  have hwf : (Op.rmap 1).wf s = true := by simp [Op.wf, getElem?_eq_some_nth _ _ hn, hm]
  refine ⟨h.step _ hwf, ?_⟩
  obtain ⟨cap, g, hr⟩ := h
  obtain ⟨beg, len, e, a1, a2, a3, a4, a5, a6, a7, a8, a9, a10, a11⟩ := rmap_spec hr 1 hwf
  rw [show sliceLen (step s (.rmap 1)).2 = len by rw [e]; rfl]
  refine ⟨a1, a2, ?_⟩
  unfold cv
  rw [a3, a4, a5, a6, a7, a8, a9, (a10 0 (by omega)).1, (a10 0 (by omega)).2, a11]

theorem cv_runmap0 {s : Sys} (h : Ok s) (k : Nat) (hn : 1 ≤ (cv s).nrd) :
    Ok (step s (.runmap 0 k)).1 ∧
    cv (step s (.runmap 0 k)).1 = { pending := (cv s).pending, wlen := (cv s).wlen, total := (cv s).total, nrd := (cv s).nrd, m0 := false, m1 := (cv s).m1, i0 := (cv s).i0 + min (cv s).l0 k, i1 := (cv s).i1, l0 := 0, l1 := (cv s).l1, acc := (cv s).acc } := by
  replace hn : 1 ≤ s.rds.length := hn
  refine ⟨h.step _ (by simp only [Op.wf, decide_eq_true_eq]; omega), ?_⟩
  obtain ⟨cap, g, hr⟩ := h
  obtain ⟨a1, a2, a3, a4, a5, a6, a7, a8, a9⟩ := runmap_spec hr 0 k (by omega)
  unfold cv
  rw [a1, a2 1 (by omega), a3, a4, a5, a6, a7, regionLen_unmapped _ _ a7, (a8 1 (by omega)).1, (a8 1 (by omega)).2, a9]

theorem cv_runmap1 {s : Sys} (h : Ok s) (k : Nat) (hn : 2 ≤ (cv s).nrd) :
    Ok (step s (.runmap 1 k)).1 ∧
    cv (step s (.runmap 1 k)).1 = { pending := (cv s).pending, wlen := (cv s).wlen, total := (cv s).total, nrd := (cv s).nrd, m0 := (cv s).m0, m1 := false, i0 := (cv s).i0, i1 := (cv s).i1 + min (cv s).l1 k, l0 := (cv s).l0, l1 := 0, acc := (cv s).acc } := by
  replace hn : 2 ≤ s.rds.length := hn
  refine ⟨h.step _ (by simp only [Op.wf, decide_eq_true_eq]; omega), ?_⟩
  obtain ⟨cap, g, hr⟩ := h
  obtain ⟨a1, a2, a3, a4, a5, a6, a7, a8, a9⟩ := runmap_spec hr 1 k (by omega)
  unfold cv
  rw [a1, a2 0 (by omega), a3, a4, a5, a6, a7, regionLen_unmapped _ _ a7, (a8 0 (by omega)).1, (a8 0 (by omega)).2, a9]

/-- the second reader registers (the first stays as it is) -/
theorem cv_join1 {s : Sys} (h : Ok s) (hn : (cv s).nrd = 1) :
    Ok (step s .join).1 ∧ ∃ m i l, cv (step s .join).1 = { pending := (cv s).pending, wlen := (cv s).wlen, total := (cv s).total, nrd := 2, m0 := (cv s).m0, m1 := m, i0 := (cv s).i0, i1 := i, l0 := (cv s).l0, l1 := l, acc := (cv s).acc } := by
  replace hn : s.rds.length = 1 := hn
  have hwf : Op.join.wf s = true := by simp [Op.wf, hn]
  refine ⟨h.step _ hwf, ?_⟩
  obtain ⟨cap, g, hr⟩ := h
  obtain ⟨b1, b2, b3, b4, b5, b6⟩ := join_others hr hwf
  have hacc := (step_cap_accepting s .join).2 fun _ => nofun
  refine ⟨(nth (step s .join).1.rds 1).mapped, nth (step s .join).1.idx 1, regionLen (step s .join).1 1, ?_⟩
  unfold cv
  rw [b1, b2, b3, b4, (b5 0 (by omega)).1, (b5 0 (by omega)).2, hacc, hn, b6 0 (by omega)]

/-- a reader's region lies inside the committed bytes -/
theorem idx_region_le {s : Sys} (h : Ok s) (i : Nat) (hi : i < s.rds.length) : nth s.idx i + regionLen s i ≤ s.total := by
  obtain ⟨cap, g, hr⟩ := h
  exact (region_extent hr.inv i (by rw [← hr.inv.l_rds]; exact hi)).2.1

theorem cv_i0_le {s : Sys} (h : Ok s) (hn : 1 ≤ (cv s).nrd) : (cv s).i0 + (cv s).l0 ≤ (cv s).total :=
  idx_region_le h 0 hn

theorem cv_i1_le {s : Sys} (h : Ok s) (hn : 2 ≤ (cv s).nrd) : (cv s).i1 + (cv s).l1 ≤ (cv s).total :=
  idx_region_le h 1 hn

/-! ## nothing of a write in flight

After `channel_abort_write` (and after a commit) the write side is *idle*: no write pending and, if the channel accepts writes,
nothing mapped beyond `head`. Reader operations and a refusal keep it idle, and a `channel_write_unmap` in that state changes
nothing — which is what `source.c` relies on when the camera hands out an empty frame (abort, then the unconditional unmap). -/

def Idle (s : Sys) : Prop := s.pending = false ∧ (s.c.accepting = true → s.c.mapped = s.c.head)

theorem readUnmap_wside (c : Chan) (r : Rd) (k : Nat) :
    (readUnmap c r k).1.head = c.head ∧ (readUnmap c r k).1.mapped = c.mapped ∧ (readUnmap c r k).1.accepting = c.accepting := by
  unfold readUnmap setHold
  split <;> exact ⟨rfl, rfl, rfl⟩

theorem idle_rmap {s : Sys} (h : Idle s) (i : Nat) : Idle (step s (.rmap i)).1 := by
  unfold Idle at *
  simp only [step]
  split
  · exact h
  · rename_i r _
    have := readMap_fields s.c r
    exact ⟨h.1, by simp only; rw [this.2.2.2.2.2, this.2.2.2.1, this.2.1]; exact h.2⟩

theorem idle_runmap {s : Sys} (h : Idle s) (i k : Nat) : Idle (step s (.runmap i k)).1 := by
  unfold Idle at *
  simp only [step]
  split
  · exact h
  · rename_i r _
    have := readUnmap_wside s.c r k
    exact ⟨h.1, by simp only; rw [this.2.2, this.2.1, this.1]; exact h.2⟩

theorem idle_join {s : Sys} (h : Idle s) : Idle (step s .join).1 := by
  unfold Idle at *
  simp only [step]
  have := readMap_fields s.c {}
  exact ⟨h.1, by rw [this.2.2.2.2.2, this.2.2.2.1, this.2.1]; exact h.2⟩

theorem idle_refuse {s : Sys} (h : Idle s) : Idle (step s (.accept false)).1 := by
  unfold Idle at *
  refine ⟨h.1, ?_⟩
  intro ha
  have : (step s (.accept false)).1.c.accepting = false := rfl
  rw [this] at ha; cases ha

theorem idle_wabort (s : Sys) : Idle (step s .wabort).1 := by
  unfold Idle
  refine ⟨rfl, ?_⟩
  simp only [step, abortWrite]
  split <;> simp_all

/-- a `channel_write_unmap` with nothing in flight changes nothing -/
theorem wcommit_idle {s : Sys} (h : Idle s) : (step s .wcommit).1 = s := by
  obtain ⟨hp, hm⟩ := h
  obtain ⟨c, rds, pending, wbeg, wlen, total, idx, join, bounds⟩ := s
  obtain ⟨cap, head, high, cycle, mapped, accepting, holds⟩ := c
  simp only at hp hm
  subst hp
  cases accepting with
  | false => simp [step]
  | true =>
    have e := hm rfl
    subst e
    simp [step, writeUnmap]

end AcqVerif.Channel
