import AcqVerif.Channel.InvStep
import AcqVerif.Channel.Drain
/-!
# Alignment and frame boundaries in the channel

If every write size is a multiple of 8 and readers consume whole regions or multiples of 8,
every cursor, every region offset and every stream position is a multiple of 8 (`A8`).
If readers consume up to write boundaries, every mapped region starts and ends at a write
boundary, i.e. is a back-to-back sequence of whole committed writes (`BndI`).
-/
namespace AcqVerif.Channel
open AcqVerif

/-- length of reader `i`'s mapped region (0 if not mapped) -/
def mappedLen (s : Sys) (i : Nat) : Nat :=
  if (nth s.rds i).mapped then availBytes (nth s.rds i) (nth s.c.holds i) s.c.high else 0

structure A8 (s : Sys) : Prop where
  head : s.c.head % 8 = 0
  high : s.c.high % 8 = 0
  mapped : s.c.mapped % 8 = 0
  total : s.total % 8 = 0
  holds : ∀ h ∈ s.c.holds, h.pos % 8 = 0
  rds : ∀ r ∈ s.rds, r.pos % 8 = 0
  idx : ∀ x ∈ s.idx, x % 8 = 0
  bounds : ∀ b ∈ s.bounds, b % 8 = 0

/-- the hypothesis on a history: sizes of writes are multiples of 8; a reader consumes its whole
region or a multiple of 8 -/
def Op.aligned (s : Sys) : Op → Bool
  | .wmap n => n % 8 == 0
  | .runmap i k => k % 8 == 0 || decide (k ≥ mappedLen s i)
  | _ => true

def alignedRun (s : Sys) : List Op → Bool
  | [] => true
  | op :: ops => op.aligned s && alignedRun (step s op).1 ops

theorem A8.init (cap : Nat) : A8 (Sys.init cap) := by
  refine ⟨rfl, rfl, rfl, rfl, ?_, ?_, ?_, ?_⟩ <;> simp [Sys.init]

theorem A8.hold_nth {s : Sys} (h : A8 s) (i : Nat) : (nth s.c.holds i).pos % 8 = 0 :=
  nth_of_forall (P := fun x : Hold => x.pos % 8 = 0) _ i h.holds rfl

theorem A8.rd_nth {s : Sys} (h : A8 s) (i : Nat) : (nth s.rds i).pos % 8 = 0 :=
  nth_of_forall (P := fun x : Rd => x.pos % 8 = 0) _ i h.rds rfl

theorem A8.idx_nth {s : Sys} (h : A8 s) (i : Nat) : (nth s.idx i) % 8 = 0 :=
  nth_of_forall (P := fun x => x % 8 = 0) _ i h.idx rfl

theorem availBytes_mod8 (r : Rd) (h : Hold) (high : Nat) (h1 : r.pos % 8 = 0) (h2 : h.pos % 8 = 0) (h3 : high % 8 = 0) :
    availBytes r h high % 8 = 0 := by
  unfold availBytes
  (repeat' split) <;> omega

theorem A8.wmap {s : Sys} {g : Ghost} (hi : Inv s g) (h : A8 s) (n : Nat) (hn : n % 8 = 0) : A8 (step s (.wmap n)).1 := by
  have h1 := h.head
  simp only [step]
  cases hw : writeMap s.c n with
  | null => exact h
  | block => exact h
  | ok beg c' =>
    obtain ⟨_, hc⟩ := writeMap_ok_cases hi hw
    rcases hc with ⟨_, rfl, _⟩ | ⟨_, rfl, _⟩ | ⟨_, rfl, _⟩
    · exact { h with mapped := by simp only; omega }
    · exact { h with head := rfl, high := h.head, mapped := hn }
    · refine { h with head := rfl, high := h.head, mapped := hn, holds := ?_ }
      intro x hx
      simp only [List.mem_map] at hx
      obtain ⟨_, _, e⟩ := hx
      rw [← e]; rfl

theorem A8.wcommit {s : Sys} (h : A8 s) : A8 (step s .wcommit).1 := by
  have h1 := h.head; have h3 := h.mapped; have h4 := h.total
  simp only [step, writeUnmap]
  split
  · refine { h with head := h.mapped, total := by simp only; omega, bounds := ?_ }
    intro b hb
    simp only at hb
    split at hb
    · exact h.bounds b hb
    · rcases List.mem_cons.mp hb with e | hb
      · rw [e]; omega
      · exact h.bounds b hb
  · exact { h with }

theorem A8.wabort {s : Sys} (h : A8 s) : A8 (step s .wabort).1 := by
  simp only [step, abortWrite]
  split
  · exact { h with mapped := h.head }
  · exact { h with }

theorem forall_mem_set {α : Type} {P : α → Prop} {l : List α} (h : ∀ x ∈ l, P x) (i : Nat) {v : α} (hv : P v) :
    ∀ x ∈ l.set i v, P x :=
  fun x hx => (List.mem_or_eq_of_mem_set hx).elim (h x) fun e => e ▸ hv

/-- `channel_read_map` keeps the alignment: the handle's `pos` becomes `head` or 0, a moved bookmark 0 or `head` -/
theorem readMapCore_a8 (c : Chan) (r : Rd) (i : Nat) (hd : Hold) (h1 : c.head % 8 = 0) (hr : r.pos % 8 = 0)
    (hh : ∀ x ∈ c.holds, x.pos % 8 = 0) :
    (readMapCore c r i hd).2.1.pos % 8 = 0 ∧ ∀ x ∈ (readMapCore c r i hd).1.holds, x.pos % 8 = 0 := by
  have s1 := forall_mem_set hh i (v := ⟨c.head, c.cycle⟩) h1
  have s2 := forall_mem_set hh i (v := ⟨0, c.cycle⟩) rfl
  constructor
  · simp only [readMapCore, apply_ite Prod.snd, apply_ite Prod.fst, apply_ite Rd.pos, apply_ite (· % 8 = 0), hr, h1,
      Nat.zero_mod, ite_self]
  · simp only [readMapCore, setHold, apply_ite Prod.fst, apply_ite Chan.holds,
      apply_ite (fun l : List Hold => ∀ x ∈ l, x.pos % 8 = 0)]
    simp only [eq_true hh, eq_true s1, eq_true s2, ite_self]

theorem readMap_a8 (c : Chan) (r : Rd) (h1 : c.head % 8 = 0) (hr : r.pos % 8 = 0) (hh : ∀ x ∈ c.holds, x.pos % 8 = 0) :
    (readMap c r).2.1.pos % 8 = 0 ∧ ∀ x ∈ (readMap c r).1.holds, x.pos % 8 = 0 := by
  unfold readMap readerInit readMapAt
  by_cases e : r.id > 0
  · rw [if_pos e]; exact readMapCore_a8 _ _ _ _ h1 hr hh
  · rw [if_neg e]
    refine readMapCore_a8 _ _ _ _ h1 hr fun x hx => ?_
    rcases List.mem_append.mp hx with e' | e'
    · exact hh x e'
    · simp only [List.mem_singleton] at e'; rw [e']; rfl

/-- the state after a `channel_read_map` that leaves the handles `rds'` and the stream positions `idx'` -/
theorem A8.of_readMap {s : Sys} (h : A8 s) (r : Rd) (hr : r.pos % 8 = 0) {rds' : List Rd} {idx' : List Nat}
    (hrds : ∀ x ∈ rds', x ∈ s.rds ∨ x = (readMap s.c r).2.1) (hidx : ∀ x ∈ idx', x % 8 = 0) {j : List Nat} :
    A8 { s with c := (readMap s.c r).1, rds := rds', idx := idx', join := j } := by
  have ha := readMap_a8 s.c r h.head hr h.holds
  have f := readMap_fields s.c r
  refine ⟨?_, ?_, ?_, h.total, ha.2, ?_, hidx, h.bounds⟩
  · show (readMap s.c r).1.head % 8 = 0; rw [f.2.1]; exact h.head
  · show (readMap s.c r).1.high % 8 = 0; rw [f.1]; exact h.high
  · show (readMap s.c r).1.mapped % 8 = 0; rw [f.2.2.2.1]; exact h.mapped
  · intro x hx
    rcases hrds x hx with e | e
    · exact h.rds x e
    · rw [e]; exact ha.1

theorem A8.rmap {s : Sys} (h : A8 s) (i : Nat) : A8 (step s (.rmap i)).1 := by
  simp only [step]
  cases hr : s.rds[i]? with
  | none => exact h
  | some r =>
    exact h.of_readMap r (h.rds r (List.mem_of_getElem? hr)) (fun _ hx => List.mem_or_eq_of_mem_set hx) h.idx

theorem A8.join {s : Sys} (h : A8 s) : A8 (step s .join).1 := by
  have h1 := h.head; have h4 := h.total
  refine h.of_readMap {} rfl (fun x hx => ?_) (fun x hx => ?_)
  · rcases List.mem_append.mp hx with e | e
    · exact Or.inl e
    · exact Or.inr (List.mem_singleton.mp e)
  · rcases List.mem_append.mp hx with e | e
    · exact h.idx x e
    · rw [List.mem_singleton.mp e]; omega

theorem A8.runmap {s : Sys} (h : A8 s) (i k : Nat) (hal : (Op.runmap i k).aligned s = true)
    (hid : (nth s.rds i).id = i + 1) : A8 (step s (.runmap i k)).1 := by
  simp only [step]
  cases hr : s.rds[i]? with
  | none => exact h
  | some r =>
    obtain ⟨_, rfl⟩ := of_getElem?_eq_some hr
    have hrp := h.rd_nth i
    have hh0 := h.hold_nth i
    have hx := h.idx_nth i
    have hid' : (nth s.rds i).id - 1 = i := by omega
    simp only [readUnmap, getD_zero_eq_nth, getD_default_eq_nth, hid']
    by_cases hm : (nth s.rds i).mapped = true
    · simp only [hm, Bool.not_true, Bool.false_eq_true, ↓reduceIte]
      have hav := availBytes_mod8 (nth s.rds i) (nth s.c.holds i) s.c.high hrp hh0 h.high
      have hk : min (availBytes (nth s.rds i) (nth s.c.holds i) s.c.high) k % 8 = 0 := by
        simp only [Op.aligned, mappedLen, hm, ↓reduceIte, Bool.or_eq_true, beq_iff_eq, decide_eq_true_eq] at hal
        rcases hal with e | e
        · rcases Nat.le_total (availBytes (nth s.rds i) (nth s.c.holds i) s.c.high) k with e' | e'
          · rw [Nat.min_eq_left e']; exact hav
          · rw [Nat.min_eq_right e']; exact e
        · rw [Nat.min_eq_left e]; exact hav
      refine { h with holds := forall_mem_set h.holds i ?_, rds := forall_mem_set h.rds i hrp, idx := forall_mem_set h.idx i (by omega) }
      unfold unmapHold
      dsimp only
      (repeat' split) <;> simp only <;> omega
    · have hm' : (nth s.rds i).mapped = false := by simpa using hm
      simp only [hm', Bool.not_false, ↓reduceIte, Bool.false_eq_true, Nat.zero_min, Nat.add_zero]
      exact { h with rds := forall_mem_set h.rds i hrp, idx := forall_mem_set h.idx i hx }

theorem A8.step {s : Sys} {g : Ghost} (hi : Inv s g) (h : A8 s) (op : Op) (hwf : op.wf s = true)
    (hal : op.aligned s = true) : A8 (Channel.step s op).1 := by
  cases op with
  | wmap n => exact h.wmap hi n (by simpa [Op.aligned] using hal)
  | wcommit => exact h.wcommit
  | wabort => exact h.wabort
  | accept b => exact { h with }
  | join => exact h.join
  | rmap i => exact h.rmap i
  | runmap i k =>
    simp only [Op.wf, decide_eq_true_eq] at hwf
    exact h.runmap i k hal (hi.rd i (by rw [← hi.l_rds]; exact hwf)).1.id

/-! ## frame boundaries -/

/-- every reader's stream position is a write boundary -/
def BndI (s : Sys) : Prop := ∀ i, i < s.idx.length → nth s.idx i ∈ s.bounds

/-- the hypothesis on a history: a reader consumes up to a write boundary (a whole number of frames) -/
def Op.boundary (s : Sys) : Op → Bool
  | .runmap i k => decide (nth s.idx i + min (mappedLen s i) k ∈ s.bounds)
  | _ => true

def boundaryRun (s : Sys) : List Op → Bool
  | [] => true
  | op :: ops => op.boundary s && boundaryRun (step s op).1 ops

theorem BndI.step {s : Sys} {g : Ghost} (hi : Inv s g) (h : BndI s) (op : Op) (hb : op.boundary s = true) :
    BndI (Channel.step s op).1 := by
  cases op with
  | wmap n =>
    simp only [Channel.step]
    cases writeMap s.c n <;> exact h
  | wcommit =>
    simp only [Channel.step]
    split
    · intro i hi'
      simp only at hi' ⊢
      split
      · exact h i hi'
      · exact List.mem_cons_of_mem _ (h i hi')
    · exact h
  | wabort => exact h
  | accept b => exact h
  | join =>
    simp only [Channel.step]
    intro i hi'
    simp only [List.length_append, List.length_cons, List.length_nil] at hi'
    simp only
    by_cases e : i < s.idx.length
    · rw [nth_append_lt _ _ _ e]; exact h i e
    · have : i = s.idx.length := by omega
      subst this; rw [nth_append_length]; exact hi.b_lap
  | rmap i =>
    simp only [Channel.step]
    split
    · exact h
    · exact h
  | runmap i k =>
    simp only [Channel.step]
    cases hr : s.rds[i]? with
    | none => exact h
    | some r =>
      obtain ⟨_, rfl⟩ := of_getElem?_eq_some hr
      simp only [Op.boundary, mappedLen] at hb
      intro j hj
      simp only [List.length_set] at hj
      simp only
      by_cases e : i = j
      · subst e
        rw [nth_set_eq _ _ _ hj]
        exact of_decide_eq_true hb
      · rw [nth_set_ne _ _ _ _ e]; exact h j hj

/-- a region handed to a reader ends at a write boundary -/
theorem region_ends_at_boundary {s : Sys} {g : Ghost} (h : Inv s g) (i : Nat) (hi : i < s.c.holds.length)
    (hun : (nth s.rds i).mapped = false) : nth s.idx i + readLen s i ∈ s.bounds := by
  obtain ⟨hspec, hle⟩ := readLen_spec h i hi hun
  unfold unread at hspec
  rcases hspec with e | ⟨e, _⟩
  · have : nth s.idx i + readLen s i = s.total := by omega
    rw [this]; exact h.b_total
  · have : nth s.idx i + readLen s i = s.total - s.c.head := by omega
    rw [this]; exact h.b_lap

theorem A8.run {cap : Nat} {s : Sys} {g : Ghost} (hr : Reachable cap s g) (ha : A8 s) (ops : List Op)
    (h1 : wfRun s ops = true) (h2 : alignedRun s ops = true) : A8 (run s ops) := by
  induction ops generalizing s g with
  | nil => exact ha
  | cons op ops ih =>
    simp only [wfRun, alignedRun, Bool.and_eq_true] at h1 h2
    exact ih (hr.step op h1.1) (ha.step hr.inv op h1.1 h2.1) h1.2 h2.2

theorem BndI.run {cap : Nat} {s : Sys} {g : Ghost} (hr : Reachable cap s g) (hb : BndI s) (ops : List Op)
    (h1 : wfRun s ops = true) (h3 : boundaryRun s ops = true) : BndI (run s ops) := by
  induction ops generalizing s g with
  | nil => exact hb
  | cons op ops ih =>
    simp only [wfRun, boundaryRun, Bool.and_eq_true] at h1 h3
    exact ih (hr.step op h1.1) (hb.step hr.inv op h3.1) h1.2 h3.2

end AcqVerif.Channel
