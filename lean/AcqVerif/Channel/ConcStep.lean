import AcqVerif.Channel.ConcInv
/-! # Every scheduler step preserves the concurrent invariant -/
namespace AcqVerif.Channel
open AcqVerif

theorem CInv.init {cap : Nat} (s : Sys) (g : Ghost) (progs : List (List Op)) (h : Reachable cap s g)
    (single : singleWriter (CState.init s progs).threads) : CInv cap (CState.init s progs) := by
  have hpc : ∀ t, t < (CState.init s progs).threads.length → (nth (CState.init s progs).threads t).pc = .start := by
    intro t ht
    simp only [CState.init, List.length_map] at ht ⊢
    rw [nth_map _ _ _ ht]
  refine ⟨⟨g, h⟩, single, nofun, ?_, ?_, ?_⟩
  all_goals intro t ht e; rw [hpc t ht] at e; cases e

/-! ## The steps of the scheduler -/

def wake (x : Thread) : Thread := if x.pc = .asleep then { x with pc := .woken } else x

theorem wake_prog (x : Thread) : (wake x).prog = x.prog := by unfold wake; split <;> rfl
theorem wake_not_asleep (x : Thread) : (wake x).pc ≠ .asleep := by
  unfold wake; split
  · intro e; cases e
  · assumption
theorem wake_waitEntry (x : Thread) : (wake x).pc = .waitEntry ↔ x.pc = .waitEntry := by
  unfold wake; split
  · rename_i e; simp [e]
  · rfl
theorem wake_notify (x : Thread) : (wake x).pc = .notify ↔ x.pc = .notify := by
  unfold wake; split
  · rename_i e; simp [e]
  · rfl

/-- the four kinds of step `cstep` takes, by the program counter of the thread -/
theorem cstep_cases {cs : CState} {t : Nat} {cs' : CState} (e : cstep cs t = some cs') :
    t < cs.threads.length ∧
    (((nth cs.threads t).pc = .start ∧ cs' = setThread cs t (settle cs.sys (nth cs.threads t).prog)) ∨
     (∃ op rest, ((nth cs.threads t).pc = .lockReq ∨ (nth cs.threads t).pc = .woken) ∧
        (nth cs.threads t).prog = op :: rest ∧ cs.lock = none ∧ cs' = runBody cs t op rest) ∨
     ((nth cs.threads t).pc = .waitEntry ∧
        cs' = { cs with lock := none, threads := cs.threads.set t { pc := .asleep, prog := (nth cs.threads t).prog } }) ∨
     (∃ op rest, (nth cs.threads t).pc = .notify ∧ (nth cs.threads t).prog = op :: rest ∧
        cs' = { cs with threads := (cs.threads.map wake).set t (settle cs.sys rest) })) := by
  unfold cstep at e
  cases hget : cs.threads[t]? with
  | none => rw [hget] at e; cases e
  | some th =>
    obtain ⟨ht, hth⟩ := List.getElem?_eq_some_iff.1 hget
    rw [nth_eq_getElem _ _ ht, hth]
    rw [hget] at e
    simp only at e
    refine ⟨ht, ?_⟩
    have hlock : ∀ {a : CState}, (if cs.lock.isNone then some a else none) = some cs' → cs.lock = none ∧ cs' = a := by
      intro a e
      cases hl : cs.lock <;> rw [hl] at e <;> cases e
      exact ⟨rfl, rfl⟩
    split at e
    · next hpc => cases e; exact .inl ⟨hpc, rfl⟩
    · next op rest hpc hprog => exact .inr (.inl ⟨op, rest, .inl hpc, hprog, hlock e⟩)
    · next op rest hpc hprog => exact .inr (.inl ⟨op, rest, .inr hpc, hprog, hlock e⟩)
    · next hpc => cases e; exact .inr (.inr (.inl ⟨hpc, rfl⟩))
    · next op rest hpc hprog => cases e; exact .inr (.inr (.inr ⟨op, rest, hpc, hprog, rfl⟩))
    · cases e

/-- `step` reports `wblock` exactly when `channel_write_map` would wait -/
theorem step_wmap_block (s : Sys) (m : Nat) : (step s (.wmap m)).2 = .wblock ↔ writeMap s.c m = .block := by
  simp only [step]
  cases hw : writeMap s.c m <;> simp

/-- the three outcomes of running a call's body under the lock -/
theorem runBody_cases (cs : CState) (t : Nat) (op : Op) (rest : List Op) :
    (∃ m, op = .wmap m ∧ writeMap cs.sys.c m = .block ∧
      runBody cs t op rest = { cs with lock := some t, threads := cs.threads.set t { pc := .waitEntry, prog := op :: rest } }) ∨
    (notifies cs.sys op = true ∧
      runBody cs t op rest = { sys := (step cs.sys op).1, lock := none,
                               threads := cs.threads.set t { pc := .notify, prog := op :: rest } }) ∨
    (notifies cs.sys op = false ∧
      runBody cs t op rest = { sys := (step cs.sys op).1, lock := none,
                               threads := cs.threads.set t (settle (step cs.sys op).1 rest) }) := by
  unfold runBody
  split
  next s' out hs =>
  rw [hs]
  split
  · next m => exact .inl ⟨m, rfl, (step_wmap_block _ _).1 (by rw [hs]), rfl⟩
  · cases hn : notifies cs.sys op
    · exact .inr (.inr ⟨rfl, if_neg Bool.false_ne_true⟩)
    · exact .inr (.inl ⟨rfl, if_pos rfl⟩)

/-! ## The invariant when one thread moves -/

/-- A step of thread `t` made while the lock is free or `t`'s own, so that no other thread is at the entry of
`condition_variable_wait`.  It may change the channel; `t` ends up holding the lock exactly if it is at the wait
entry itself.  A sleeping writer stays covered: either `t` goes on to notify, or `t` was not the pending notifier
and the change leaves blocked requests blocked. -/
theorem CInv.lock_step {cap : Nat} {cs : CState} (h : CInv cap cs) {t : Nat} (ht : t < cs.threads.length)
    (hlk : cs.lock = none ∨ cs.lock = some t) {s' : Sys} {l' : Option Nat} {th' : Thread} (hsys : ∃ g, Reachable cap s' g)
    (hsub : hasWriterOp th'.prog = true → hasWriterOp (nth cs.threads t).prog = true)
    (hl : l' = if th'.pc = .waitEntry then some t else none)
    (hself : th'.pc.inWait = true → ∀ m rest, th'.prog = .wmap m :: rest → writeMap s'.c m = .block)
    (hsleep : th'.pc = .notify ∨ ((nth cs.threads t).pc ≠ .notify ∧
      ∀ x m rest, x ≠ t → x < cs.threads.length → (nth cs.threads x).pc = .asleep →
        (nth cs.threads x).prog = .wmap m :: rest → writeMap cs.sys.c m = .block → writeMap s'.c m = .block)) :
    CInv cap { sys := s', lock := l', threads := cs.threads.set t th' } := by
  have hlen : (cs.threads.set t th').length = cs.threads.length := List.length_set
  have hset := fun x => nth_set_cases cs.threads t x th' ht
  have honly : ∀ x, x < cs.threads.length → (nth cs.threads x).pc = .waitEntry → x = t := by
    intro x hx ex
    have := h.lock2 x hx ex
    rcases hlk with e | e <;> rw [e] at this <;> cases this
    rfl
  subst hl
  refine ⟨hsys, singleWriter_set _ _ _ ht h.single hsub, ?_, ?_, ?_, ?_⟩
  · intro x e
    split at e <;> cases e
    exact ⟨hlen ▸ ht, by rwa [nth_set_eq _ _ _ ht]⟩
  · intro x hx e
    rcases hset x with ⟨rfl, e'⟩ | ⟨ex, e'⟩ <;> rw [e'] at e
    · exact if_pos e
    · exact absurd (honly x (hlen ▸ hx) e) ex
  · intro x hx e m rest hp
    rcases hset x with ⟨rfl, e'⟩ | ⟨ex, e'⟩ <;> rw [e'] at e hp
    · exact hself (by rw [e]; rfl) m rest hp
    · exact absurd (honly x (hlen ▸ hx) e) ex
  · intro x hx e m rest hp
    rcases hset x with ⟨rfl, e'⟩ | ⟨ex, e'⟩ <;> rw [e'] at e hp
    · exact .inl (hself (by rw [e]; rfl) m rest hp)
    · rcases hsleep with en | ⟨hne, keep⟩
      · exact .inr ⟨t, hlen ▸ ht, by rw [nth_set_eq _ _ _ ht]; exact en⟩
      · rcases h.w2 x (hlen ▸ hx) e m rest hp with hb | ⟨u, hu, hun⟩
        · exact .inl (keep x m rest ex (hlen ▸ hx) e hp hb)
        · have eu : t ≠ u := fun eu => hne (eu ▸ hun)
          exact .inr ⟨u, hlen ▸ hu, by rw [nth_set_ne _ _ _ _ eu]; exact hun⟩

/-- A thread that is not at the wait entry goes on to its next locking call (or finishes) and touches neither lock
nor channel.  If it was a pending notifier, nobody is asleep any more. -/
theorem CInv.settled {cap : Nat} {cs : CState} (h : CInv cap cs) (t : Nat) (ht : t < cs.threads.length) (p : List Op)
    (hsub : hasWriterOp p = true → hasWriterOp (nth cs.threads t).prog = true)
    (hpc : (nth cs.threads t).pc ≠ .waitEntry)
    (hn : (nth cs.threads t).pc = .notify → ∀ x, x < cs.threads.length → (nth cs.threads x).pc ≠ .asleep) :
    CInv cap (setThread cs t (settle cs.sys p)) := by
  unfold setThread
  have hlen : (cs.threads.set t (settle cs.sys p)).length = cs.threads.length := List.length_set
  have hset := fun x => nth_set_cases cs.threads t x (settle cs.sys p) ht
  have hs := settle_not_inWait cs.sys p
  refine ⟨h.sysok, singleWriter_set _ _ _ ht h.single (fun e => hsub (hasWriterOp_settle _ _ e)), ?_, ?_, ?_, ?_⟩
  · intro x e
    obtain ⟨hx, hp⟩ := h.lock1 x e
    rcases hset x with ⟨rfl, _⟩ | ⟨_, e'⟩
    · exact absurd hp hpc
    · exact ⟨hlen ▸ hx, by rw [e']; exact hp⟩
  · intro x hx e
    rcases hset x with ⟨rfl, e'⟩ | ⟨_, e'⟩ <;> rw [e'] at e
    · rw [e] at hs; cases hs
    · exact h.lock2 x (hlen ▸ hx) e
  · intro x hx e m rest hp
    rcases hset x with ⟨rfl, e'⟩ | ⟨_, e'⟩ <;> rw [e'] at e hp
    · rw [e] at hs; cases hs
    · exact h.w1 x (hlen ▸ hx) e m rest hp
  · intro x hx e m rest hp
    rcases hset x with ⟨rfl, e'⟩ | ⟨_, e'⟩ <;> rw [e'] at e hp
    · rw [e] at hs; cases hs
    · rcases h.w2 x (hlen ▸ hx) e m rest hp with hb | ⟨u, hu, hun⟩
      · exact .inl hb
      · have eu : t ≠ u := fun eu => hn (eu ▸ hun) x (hlen ▸ hx) e
        exact .inr ⟨u, hlen ▸ hu, by rw [nth_set_ne _ _ _ _ eu]; exact hun⟩

/-- waking every sleeping thread keeps the invariant -/
theorem CInv.woken {cap : Nat} {cs : CState} (h : CInv cap cs) : CInv cap { cs with threads := cs.threads.map wake } := by
  have hlen : (cs.threads.map wake).length = cs.threads.length := List.length_map ..
  have hnth : ∀ x, x < (cs.threads.map wake).length → nth (cs.threads.map wake) x = wake (nth cs.threads x) :=
    fun x hx => nth_map _ _ _ (hlen ▸ hx)
  refine ⟨h.sysok, ?_, ?_, ?_, ?_, ?_⟩
  · intro a b ha hb wa wb
    rw [hnth a ha, wake_prog] at wa
    rw [hnth b hb, wake_prog] at wb
    exact h.single a b (hlen ▸ ha) (hlen ▸ hb) wa wb
  · intro x e
    obtain ⟨hx, hp⟩ := h.lock1 x e
    exact ⟨hlen ▸ hx, by rw [hnth x (hlen ▸ hx)]; exact (wake_waitEntry _).2 hp⟩
  · intro x hx e
    rw [hnth x hx] at e
    exact h.lock2 x (hlen ▸ hx) ((wake_waitEntry _).1 e)
  · intro x hx e m rest hp
    rw [hnth x hx] at e hp
    exact h.w1 x (hlen ▸ hx) ((wake_waitEntry _).1 e) m rest (wake_prog _ ▸ hp)
  · intro x hx e
    rw [hnth x hx] at e
    exact absurd e (wake_not_asleep _)

/-- the first step of a thread: run up to the first call that takes the lock -/
theorem CInv.started {cap : Nat} {cs : CState} (h : CInv cap cs) (t : Nat) (ht : t < cs.threads.length)
    (hpc : (nth cs.threads t).pc = .start) :
    CInv cap (setThread cs t (settle cs.sys (nth cs.threads t).prog)) :=
  h.settled t ht _ id (by rw [hpc]; decide) (by rw [hpc]; intro e; cases e)

/-- the `notify_all` step: every sleeping thread is woken; thread `t` goes on to its next call -/
theorem CInv.notified {cap : Nat} {cs : CState} (h : CInv cap cs) (t : Nat) (ht : t < cs.threads.length)
    (hpc : (nth cs.threads t).pc = .notify) (op : Op) (rest : List Op) (hprog : (nth cs.threads t).prog = op :: rest) :
    CInv cap { cs with threads := (cs.threads.map wake).set t (settle cs.sys rest) } := by
  have hlen : (cs.threads.map wake).length = cs.threads.length := List.length_map ..
  refine h.woken.settled t (hlen ▸ ht) rest ?_ ?_ ?_
  · intro e
    simp only
    rw [nth_map _ _ _ ht, wake_prog, hprog]
    exact hasWriterOp_tail _ _ e
  · simp only
    rw [nth_map _ _ _ ht, Ne, wake_waitEntry, hpc]
    decide
  · intro _ x hx
    simp only
    rw [nth_map _ _ _ (hlen ▸ hx)]
    exact wake_not_asleep _

/-! ## Calls that do not notify leave a blocked request blocked -/

/-- a reader whose bookmark is `(0, cycle)` has at most the committed part of the writer's lap to read: mapping it
moves no bookmark -/
theorem readMapCore_fresh (c : Chan) (r : Rd) (i : Nat) (hr : r.mapped = false) :
    (readMapCore c r i ⟨0, c.cycle⟩).1 = c := by
  unfold readMapCore
  rw [hr, if_neg Bool.false_ne_true]
  by_cases h0 : c.head = 0
  · rw [if_pos ⟨h0.symm, rfl⟩]
  · rw [if_neg (fun e => h0 e.1.symm), if_pos (Nat.pos_of_ne_zero h0), if_neg (fun e => e rfl)]

/-- a joining reader only appends its bookmark `(0, cycle)` to the channel -/
theorem join_chan_eq (s : Sys) : (step s .join).1.c = { s.c with holds := s.c.holds ++ [⟨0, s.c.cycle⟩] } := by
  simp only [step, readMap, readerInit, Nat.lt_irrefl, ↓reduceIte, Nat.add_sub_cancel, readMapAt]
  rw [show (s.c.holds ++ [(⟨0, s.c.cycle⟩ : Hold)]).getD s.c.holds.length default = ⟨0, s.c.cycle⟩ from
    nth_append_length s.c.holds _]
  exact readMapCore_fresh _ _ _ rfl

/-- `channel_read_map` writes no field of the channel but the bookmarks -/
theorem readMap_chan (c : Chan) (r : Rd) : (readMap c r).1 = { c with holds := (readMap c r).1.holds } := by
  obtain ⟨h1, h2, h3, h4, h5, h6⟩ := readMap_fields c r
  generalize (readMap c r).1 = c' at *
  cases c'
  simp only at h1 h2 h3 h4 h5 h6
  subst_vars
  rfl

/-- a reader's call whose body does not end in a `notify_all` cannot make a blocked request admissible -/
theorem step_keeps_block {s : Sys} {g : Ghost} (h : Inv s g) (op : Op) (hw : isWriterOp op = false)
    (hn : notifies s op = false) (m : Nat) (hb : writeMap s.c m = .block) : writeMap (step s op).1.c m = .block := by
  cases op with
  | wmap n => cases hw
  | wcommit => cases hw
  | wabort => cases hw
  | accept b => cases hn
  | runmap i k => cases hn
  | join => rw [join_chan_eq]; exact join_keeps_block h m hb
  | rmap i =>
    simp only [step]
    cases hri : s.rds[i]? with
    | none => exact hb
    | some r =>
      simp only [notifies, hri, decide_eq_false_iff_not, ne_eq, Decidable.not_not] at hn
      simp only
      rw [readMap_chan, hn]; exact hb

/-! ## The invariant is inductive -/

theorem bodyOp_eq {cs : CState} {t : Nat} {op : Op} {rest : List Op}
    (hpc : (nth cs.threads t).pc = .lockReq ∨ (nth cs.threads t).pc = .woken)
    (hprog : (nth cs.threads t).prog = op :: rest) : bodyOp cs t = some op := by
  unfold bodyOp
  rcases hpc with e | e <;> rw [e, hprog]

/-- **Every scheduler step of every thread preserves the invariant.** -/
theorem CInv.step {cap : Nat} {cs : CState} (h : CInv cap cs) (t : Nat) (cs' : CState)
    (e : cstep cs t = some cs') (hwf : stepWf cs t = true) : CInv cap cs' := by
  obtain ⟨ht, ⟨hpc, rfl⟩ | ⟨op, rest, hpc, hprog, hl, rfl⟩ | ⟨hpc, rfl⟩ | ⟨op, rest, hpc, hprog, rfl⟩⟩ := cstep_cases e
  · exact h.started t ht hpc
  · -- the body of `op` runs under the lock, which was free
    have hnn : (nth cs.threads t).pc ≠ .notify := by rcases hpc with e | e <;> rw [e] <;> decide
    rw [stepWf, bodyOp_eq hpc hprog] at hwf
    obtain ⟨g, hr⟩ := h.sysok
    rcases runBody_cases cs t op rest with ⟨m, rfl, hb, e3⟩ | ⟨hn, e3⟩ | ⟨hn, e3⟩ <;> rw [e3]
    · exact h.lock_step ht (.inl hl) h.sysok (fun e => hprog ▸ e) rfl
        (fun _ m' rest' hp => by cases hp; exact hb) (.inr ⟨hnn, fun _ _ _ _ _ _ _ hb => hb⟩)
    · exact h.lock_step ht (.inl hl) ⟨_, hr.step op hwf⟩ (fun e => hprog ▸ e) rfl (fun e => by cases e) (.inl rfl)
    · have hs := settle_not_inWait (Channel.step cs.sys op).1 rest
      refine h.lock_step ht (.inl hl) ⟨_, hr.step op hwf⟩
        (fun e => hprog ▸ hasWriterOp_tail _ _ (hasWriterOp_settle _ _ e)) (if_neg fun e => by rw [e] at hs; cases hs).symm
        (fun e => by rw [hs] at e; cases e) (.inr ⟨hnn, fun x m rest' ex hx _ hp hb => ?_⟩)
      -- thread `x` sleeps in `write_map`, so it is the one writer, and `op` is a reader's call
      have hw : isWriterOp op = false := Bool.eq_false_iff.2 fun hw =>
        ex (h.single x t hx ht (by rw [hp]; rfl) (by rw [hprog]; exact hasWriterOp_head _ _ hw))
      exact step_keeps_block hr.inv op hw hn m hb
  · -- from the entry of `condition_variable_wait`: release the lock and sleep
    exact h.lock_step ht (.inr (h.lock2 t ht hpc)) h.sysok id rfl (fun _ => h.w1 t ht hpc)
      (.inr ⟨by rw [hpc]; decide, fun _ _ _ _ _ _ _ hb => hb⟩)
  · exact h.notified t ht hpc op rest hprog

/-- **Every reachable state of the concurrent system satisfies the invariant, under every schedule.** -/
theorem CReach.inv {cap : Nat} {cs : CState} (r : CReach cap cs) : CInv cap cs := by
  induction r with
  | init s g progs h single => exact CInv.init s g progs h single
  | step cs t cs' _ e hwf ih => exact ih.step t cs' e hwf

/-- a thread at `notify` always has a current call: it got there from `runBody` -/
theorem CReach.notify_has_call {cap : Nat} {cs : CState} (r : CReach cap cs) :
    ∀ th ∈ cs.threads, th.pc = .notify → th.prog ≠ [] := by
  induction r with
  | init s g progs h single =>
    intro th hm
    obtain ⟨p, _, rfl⟩ := List.mem_map.1 hm
    intro e; cases e
  | step cs t cs' r e hwf ih =>
    have hset : ∀ (l : List Thread) (v : Thread), (∀ th ∈ l, th.pc = .notify → th.prog ≠ []) →
        (v.pc = .notify → v.prog ≠ []) → ∀ th ∈ l.set t v, th.pc = .notify → th.prog ≠ [] :=
      fun l v hl hv th hm => (List.mem_or_eq_of_mem_set hm).elim (hl th) (· ▸ hv)
    have hsettle : ∀ s p, (settle s p).pc = .notify → (settle s p).prog ≠ [] := by
      intro s p e
      rcases settle_pc s p with e' | e' <;> rw [e'] at e <;> cases e
    obtain ⟨_, ⟨_, rfl⟩ | ⟨op, rest, _, _, _, rfl⟩ | ⟨_, rfl⟩ | ⟨op, rest, _, _, rfl⟩⟩ := cstep_cases e
    · exact hset _ _ ih (hsettle _ _)
    · rcases runBody_cases cs t op rest with ⟨m, rfl, _, e3⟩ | ⟨_, e3⟩ | ⟨_, e3⟩ <;> rw [e3]
      · exact hset _ _ ih (fun e => by cases e)
      · exact hset _ _ ih (fun _ => List.cons_ne_nil _ _)
      · exact hset _ _ ih (hsettle _ _)
    · exact hset _ _ ih (fun e => by cases e)
    · refine hset _ _ ?_ (hsettle _ _)
      intro th hm
      obtain ⟨x, hx, rfl⟩ := List.mem_map.1 hm
      rw [wake_notify, wake_prog]
      exact ih x hx

end AcqVerif.Channel
