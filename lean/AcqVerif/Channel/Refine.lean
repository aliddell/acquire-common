import AcqVerif.Channel.Translated
import AcqVerif.Channel.InvStep
import AcqVerif.Props.C02
import AcqVerif.Props.C01
/-!
# The translated `channel.c` refines the model, history by history

`CSys` is a channel *as the C has it* (the regenerated `CChannel`: flat arrays of `MAX_READERS` entries, a data address, the
ghosts `notified` / `blocked`) together with the reader handles the callers hold.  `cstep` executes one API call by calling
the **translated** function of `Generated/ChannelC.lean`.  `Sim cs s` relates it to a model state.  `refine_step` shows that
every well-formed operation preserves `Sim` and produces the same observable result; `refine_run` lifts that to every
well-formed history from a fresh channel — so each theorem of C01 / C02 / C05 about the model's results and states is a theorem
about what the translated code returns and leaves behind.
-/
namespace AcqVerif.Channel.Refine
open AcqVerif AcqVerif.Channel AcqVerif.Channel.Translated AcqVerif.Generated.ChannelC

structure CSys where
  ch : CChannel
  rds : List CReader

/-- what a caller of the C sees -/
inductive COut where
  | unit
  | wnull                                  -- `channel_write_map` returned NULL
  | wblock                                 -- … reached `condition_variable_wait`
  | wok (addr : Nat)                       -- … returned this address
  | slice (beg end_ status : Nat)          -- `channel_read_map` returned `{beg, end}`, reader status
  | bad
deriving DecidableEq, Repr

def cstep (cs : CSys) : Op → CSys × COut
  | .wmap n =>
    let r := channel_write_map cs.ch n
    if r.2.blocked ≠ 0 then (cs, .wblock)
    else if r.1 = 0 then ({ cs with ch := r.2 }, .wnull)
    else ({ cs with ch := r.2 }, .wok r.1)
  | .wcommit => ({ cs with ch := channel_write_unmap cs.ch }, .unit)
  | .wabort => ({ cs with ch := channel_abort_write cs.ch }, .unit)
  | .accept b => ({ cs with ch := channel_accept_writes cs.ch (if b then 1 else 0) }, .unit)
  | .join =>
    let r := channel_read_map cs.ch {}
    ({ ch := r.2.1, rds := cs.rds ++ [r.2.2] }, .slice r.1.1 r.1.2 r.2.2.status)
  | .rmap i =>
    match cs.rds[i]? with
    | none => (cs, .bad)
    | some rd =>
      let r := channel_read_map cs.ch rd
      ({ ch := r.2.1, rds := cs.rds.set i r.2.2 }, .slice r.1.1 r.1.2 r.2.2.status)
  | .runmap i k =>
    match cs.rds[i]? with
    | none => (cs, .bad)
    | some rd =>
      let r := channel_read_unmap cs.ch rd k
      ({ ch := r.1, rds := cs.rds.set i r.2 }, .unit)

def crun (cs : CSys) : List Op → CSys
  | [] => cs
  | op :: ops => crun (cstep cs op).1 ops

/-- the C state and the model state describe the same channel -/
structure Sim (cs : CSys) (s : Sys) : Prop where
  ch : abs cs.ch = s.c
  rds : cs.rds.map absRd = s.rds
  lp : cs.ch.holds_pos.length = 8
  lc : cs.ch.holds_cycles.length = 8
  nb : cs.ch.blocked = 0
  data : 0 < cs.ch.data
  n8 : s.rds.length ≤ 8

/-- the same observable result: a region is compared by its length and, when it is not empty, by where it starts -/
def OutRel (data : Nat) : COut → Out → Prop
  | .unit, .unit => True
  | .wnull, .wnull => True
  | .wblock, .wblock => True
  | .wok a, .wok beg => a = data + beg
  | .slice b e st, .slice beg len st' => e = b + len ∧ st = st' ∧ (len ≠ 0 → b = data + beg)
  | .bad, .bad => True
  | _, _ => False

theorem Sim.holds_length {cs : CSys} {s : Sys} (h : Sim cs s) : s.c.holds.length = cs.ch.holds_n := by
  rw [← h.ch]
  exact holdsOf_length _ _ _

theorem Sim.holds_n {cs : CSys} {s : Sys} {g : Ghost} (h : Sim cs s) (hi : Inv s g) : cs.ch.holds_n = s.rds.length := by
  rw [← h.holds_length, hi.l_rds]

theorem Sim.rds_length {cs : CSys} {s : Sys} (h : Sim cs s) : s.rds.length = cs.rds.length := by
  rw [← h.rds, List.length_map]

theorem Sim.rd_nth {cs : CSys} {s : Sys} (h : Sim cs s) {i : Nat} (hi : i < cs.rds.length) :
    nth s.rds i = absRd cs.rds[i] := by
  unfold nth
  rw [← h.rds, List.getD_eq_getElem?_getD, List.getElem?_map, List.getElem?_eq_getElem hi]
  rfl

theorem Sim.hold_nth {cs : CSys} {s : Sys} (h : Sim cs s) {i : Nat} (hi : i < cs.ch.holds_n) :
    nth s.c.holds i = ⟨cs.ch.holds_pos.getD i 0, cs.ch.holds_cycles.getD i 0⟩ := by
  unfold nth
  rw [← h.ch]
  exact holdsOf_getD _ _ _ _ hi

/-- the handle behind the model's reader `i`: the same record up to `absRd`, and its id names bookmark slot `i` -/
theorem Sim.handle {cs : CSys} {s : Sys} {g : Ghost} (h : Sim cs s) (hi : Inv s g) {i : Nat} (hlt : i < s.rds.length) :
    ∃ rd, cs.rds[i]? = some rd ∧ s.rds[i]? = some (absRd rd) ∧ rd.id = i + 1 := by
  have hc : i < cs.rds.length := h.rds_length ▸ hlt
  have e := h.rd_nth hc
  refine ⟨cs.rds[i], List.getElem?_eq_getElem hc, ?_, ?_⟩
  · rw [← e]; exact getElem?_eq_some_nth _ _ hlt
  · have hid := (hi.rd i (hi.l_rds ▸ hlt)).1.id
    rw [e] at hid
    exact hid

/-- the simulation after a call that keeps the arrays' lengths, `blocked` and the data address -/
theorem Sim.next {cs : CSys} {s s' : Sys} (h : Sim cs s) {c' : CChannel} {rds' : List CReader}
    (ch : abs c' = s'.c) (rds : rds'.map absRd = s'.rds)
    (lp : c'.holds_pos.length = cs.ch.holds_pos.length) (lc : c'.holds_cycles.length = cs.ch.holds_cycles.length)
    (nb : c'.blocked = cs.ch.blocked) (data : c'.data = cs.ch.data) (n8 : s'.rds.length ≤ 8) :
    Sim ⟨c', rds'⟩ s' :=
  ⟨ch, rds, lp.trans h.lp, lc.trans h.lc, nb.trans h.nb, Nat.lt_of_lt_of_eq h.data data.symm, n8⟩

theorem OutRel.wok {d a : Nat} {o : Out} (h : OutRel d (.wok a) o) : ∃ beg, o = .wok beg ∧ a = d + beg := by
  cases o <;> first | exact h.elim | exact ⟨_, rfl, h⟩

/-- **one API call of the translated code does what the model's `step` does**, for every well-formed operation in every state
the invariant allows -/
theorem refine_step {cs : CSys} {s : Sys} {g : Ghost} (h : Sim cs s) (hi : Inv s g) (op : Op) (hwf : op.wf s = true) :
    Sim (cstep cs op).1 (step s op).1 ∧ OutRel cs.ch.data (cstep cs op).2 (step s op).2 ∧ (cstep cs op).1.ch.data = cs.ch.data := by
  have hn := h.holds_n hi
  have hw : Wf cs.ch := ⟨by rw [h.lp, hn]; exact h.n8, by rw [h.lc, hn]; exact h.n8⟩
  cases op with
  | wmap n =>
    have e := channel_write_map_eq cs.ch n hw
    rw [h.ch] at e
    simp only [cstep, step]
    generalize writeMap s.c n = m at e ⊢
    cases m with
    | null =>
      simp only at e
      simp only [e, h.nb, ne_eq, not_true_eq_false, ↓reduceIte]
      exact ⟨h, trivial, trivial⟩
    | block =>
      simp only at e
      simp only [e, ne_eq, Nat.succ_ne_zero, not_false_eq_true, ↓reduceIte]
      exact ⟨h, trivial, trivial⟩
    | ok beg c' =>
      obtain ⟨e1, e2, e3, _, e5, e6, e7⟩ := e
      have hd := h.data
      have : ¬ (channel_write_map cs.ch n).2.blocked ≠ 0 := by rw [e3, h.nb]; simp
      have h0 : ¬ (channel_write_map cs.ch n).1 = 0 := by rw [e1]; omega
      simp only [this, h0, ↓reduceIte]
      exact ⟨h.next e2 h.rds e6 e7 e3 e5 h.n8, e1, e5⟩
  | wcommit =>
    obtain ⟨e1, _, e3, e4⟩ := channel_write_unmap_eq cs.ch
    rw [h.ch] at e1
    obtain ⟨l1, l2⟩ := channel_write_unmap_len cs.ch
    simp only [cstep, step]
    split
    · exact ⟨h.next e1 h.rds l1 l2 e3 e4 h.n8, trivial, e4⟩
    · rename_i hacc
      have : writeUnmap s.c = s.c := by unfold writeUnmap; simp [hacc]
      exact ⟨h.next (e1.trans this) h.rds l1 l2 e3 e4 h.n8, trivial, e4⟩
  | wabort =>
    obtain ⟨e1, _, e3, e4⟩ := channel_abort_write_eq cs.ch
    rw [h.ch] at e1
    obtain ⟨l1, l2⟩ := channel_abort_write_len cs.ch
    exact ⟨h.next e1 h.rds l1 l2 e3 e4 h.n8, trivial, e4⟩
  | accept b =>
    obtain ⟨e1, _⟩ := channel_accept_writes_eq cs.ch (if b then 1 else 0)
    rw [h.ch] at e1
    have hb : decide ((if b then 1 else 0) % 256 ≠ 0) = b := by cases b <;> simp
    rw [hb] at e1
    exact ⟨h.next e1 h.rds rfl rfl rfl rfl h.n8, trivial, rfl⟩
  | join =>
    simp only [Op.wf, decide_eq_true_eq] at hwf
    obtain ⟨e1, e2, e3, e4, e5, e6, e7, _, _⟩ :=
      channel_read_map_eq cs.ch {} hw (fun _ => by rw [h.lp, h.lc, hn]; exact ⟨hwf, hwf⟩) (Nat.zero_le _)
    obtain ⟨l1, l2⟩ := channel_read_map_len cs.ch {}
    have hr0 : absRd {} = ({} : Rd) := rfl
    rw [h.ch, hr0] at e1 e2 e3 e4
    simp only [cstep, step]
    exact ⟨h.next e1 (by simp [h.rds, e2]) l1 l2 e5 e6 (by simp; omega), ⟨e3, congrArg Rd.status e2, e4⟩, e6⟩
  | rmap i =>
    have hlt : i < s.rds.length := hi.l_rds ▸ (rmap_wf hi hwf).1
    obtain ⟨rd, hc, hget, hidm⟩ := h.handle hi hlt
    obtain ⟨e1, e2, e3, e4, e5, e6, e7, _, _⟩ := channel_read_map_eq cs.ch rd hw (by omega) (by rw [hn]; omega)
    obtain ⟨l1, l2⟩ := channel_read_map_len cs.ch rd
    rw [h.ch] at e1 e2 e3 e4
    simp only [cstep, step, hc, hget]
    exact ⟨h.next e1 (by rw [List.map_set, h.rds, e2]) l1 l2 e5 e6 (by simp; exact h.n8),
      ⟨e3, congrArg Rd.status e2, e4⟩, e6⟩
  | runmap i k =>
    simp only [Op.wf, decide_eq_true_eq] at hwf
    obtain ⟨rd, hc, hget, hidm⟩ := h.handle hi hwf
    obtain ⟨e1, e2, _, e4, e5, e6⟩ := channel_read_unmap_eq cs.ch rd k hw (by omega) (by rw [hn]; omega)
    obtain ⟨l1, l2⟩ := channel_read_unmap_len cs.ch rd k
    rw [h.ch] at e1 e2
    simp only [cstep, step, hc, hget]
    exact ⟨h.next e1 (by rw [List.map_set, h.rds, e2]) l1 l2 e4 e5 (by simp; exact h.n8), trivial, e5⟩

/-- a fresh channel as `channel_new` leaves it (arrays of `MAX_READERS` zeroed entries, accepting writes) -/
def CSys.init (cap data : Nat) : CSys :=
  { ch := { data := data, capacity := cap, is_accepting_writes := 1, holds_pos := List.replicate 8 0, holds_cycles := List.replicate 8 0 }, rds := [] }

theorem Sim.init (cap data : Nat) (hd : 0 < data) : Sim (CSys.init cap data) (Sys.init cap) := by
  refine ⟨?_, rfl, by simp [CSys.init], by simp [CSys.init], rfl, hd, by simp [Sys.init]⟩
  simp [CSys.init, Sys.init, abs, holdsOf]

theorem refine_run_data {cs : CSys} {s : Sys} {g : Ghost} (h : Sim cs s) (hi : Inv s g) (ops : List Op) (hwf : wfRun s ops = true) :
    Sim (crun cs ops) (run s ops) ∧ (crun cs ops).ch.data = cs.ch.data := by
  induction ops generalizing cs s g with
  | nil => exact ⟨h, rfl⟩
  | cons op ops ih =>
    simp only [wfRun, Bool.and_eq_true] at hwf
    obtain ⟨h1, _, h3⟩ := refine_step h hi op hwf.1
    obtain ⟨a, b⟩ := ih h1 (hi.step op hwf.1) hwf.2
    exact ⟨a, b.trans h3⟩

/-- **every well-formed history**: running the translated functions from a fresh channel stays in simulation with the model — the
state the code leaves behind is, up to `abs`, the state every C01 / C02 / C05 theorem speaks about -/
theorem refine_run {cs : CSys} {s : Sys} {g : Ghost} (h : Sim cs s) (hi : Inv s g) (ops : List Op) (hwf : wfRun s ops = true) :
    Sim (crun cs ops) (run s ops) :=
  (refine_run_data h hi ops hwf).1

theorem refine_history (cap data : Nat) (hd : 0 < data) (ops : List Op) (hwf : wfRun (Sys.init cap) ops = true) :
    Sim (crun (CSys.init cap data) ops) (run (Sys.init cap) ops) :=
  refine_run (Sim.init cap data hd) (Inv.init cap) ops hwf

/-- where the theorems about the translated code start: after a well-formed history from a fresh channel the C state simulates a
reachable model state, and the data address is still the one the channel was created with -/
theorem history (cap data : Nat) (hd : 0 < data) (ops : List Op) (hwf : wfRun (Sys.init cap) ops = true) :
    Sim (crun (CSys.init cap data) ops) (run (Sys.init cap) ops) ∧
    Reachable cap (run (Sys.init cap) ops) (grun (Sys.init cap) {} ops) ∧
    (crun (CSys.init cap data) ops).ch.data = data :=
  have ⟨hs, hdat⟩ := refine_run_data (Sim.init cap data hd) (Inv.init cap) ops hwf
  ⟨hs, ⟨⟨ops, hwf, rfl, rfl⟩⟩, hdat⟩

/-- … and the next call returns what the model returns: e.g. **C02.1 for the translated code** — a region handed to the writer after
any well-formed history lies inside the buffer `[data, data + cap)` -/
theorem write_region_in_buffer (cap data : Nat) (hd : 0 < data) (ops : List Op) (hwf : wfRun (Sys.init cap) ops = true) (n addr : Nat)
    (hw : (cstep (crun (CSys.init cap data) ops) (.wmap n)).2 = .wok addr) : data ≤ addr ∧ addr + n ≤ data + cap := by
  obtain ⟨hs, hreach, hdat⟩ := history cap data hd ops hwf
  obtain ⟨_, ho, _⟩ := refine_step hs hreach.inv (.wmap n) rfl
  rw [hw, hdat] at ho
  obtain ⟨beg, hm, rfl⟩ := ho.wok
  have := C02.write_region_in_buffer hreach n beg hm
  omega

/-- **C01.1 / C01.5 / C01.6 for the translated code** — after any well-formed history from a fresh channel, `channel_read_map` for a
registered reader that is not mapped returns status `Channel_Ok` and a region `[b, e)` that lies inside the buffer; the region is empty
only if the reader is drained (its stream position is the number of bytes committed so far) -/
theorem read_map_translated (cap data : Nat) (hd : 0 < data) (ops : List Op) (hwf : wfRun (Sys.init cap) ops = true) (i : Nat)
    (hwfi : (Op.rmap i).wf (run (Sys.init cap) ops) = true) (b e st : Nat)
    (hr : (cstep (crun (CSys.init cap data) ops) (.rmap i)).2 = .slice b e st) :
    st = 0 ∧ b ≤ e ∧ (b < e → data ≤ b ∧ e ≤ data + cap) ∧
      (b = e → nth (run (Sys.init cap) ops).idx i = (run (Sys.init cap) ops).total) := by
  obtain ⟨hs, hreach, hdat⟩ := history cap data hd ops hwf
  obtain ⟨_, ho, _⟩ := refine_step hs hreach.inv (.rmap i) hwfi
  obtain ⟨beg, len, e1, e2, _, _, e5, _⟩ := C01.read_map_spec hreach i hwfi
  rw [hr, e1, hdat] at ho
  obtain ⟨o1, o2, o3⟩ := ho
  refine ⟨o2, by omega, fun hlt => ?_, fun heq => e2 (by omega)⟩
  have := o3 (by omega)
  omega

/-- **C02.2(a) for the translated code** — a region `[addr, addr + n)` handed to the writer after any well-formed history does not
intersect the region any reader has mapped at that moment: reader `i`'s region starts at `data + holds_pos[i]` (the C field) and has
the length the model gives it (`C02.regionLen`, 0 when the reader is not mapped). -/
theorem write_avoids_mapped_readers (cap data : Nat) (hd : 0 < data) (ops : List Op) (hwf : wfRun (Sys.init cap) ops = true)
    (n addr : Nat) (hw : (cstep (crun (CSys.init cap data) ops) (.wmap n)).2 = .wok addr) (i : Nat)
    (hi : i < (crun (CSys.init cap data) ops).ch.holds_n) :
    C02.regionLen (run (Sys.init cap) ops) i = 0 ∨
      addr + n ≤ data + (crun (CSys.init cap data) ops).ch.holds_pos.getD i 0 ∨
      data + (crun (CSys.init cap data) ops).ch.holds_pos.getD i 0 + C02.regionLen (run (Sys.init cap) ops) i ≤ addr := by
  obtain ⟨hs, hreach, hdat⟩ := history cap data hd ops hwf
  obtain ⟨_, ho, _⟩ := refine_step hs hreach.inv (.wmap n) rfl
  rw [hw, hdat] at ho
  obtain ⟨beg, hm, rfl⟩ := ho.wok
  have hav := (C02.write_avoids_readers hreach n beg hm i (by rw [← hs.holds_n hreach.inv]; exact hi)).1
  unfold C02.regionBeg at hav
  rw [hs.hold_nth hi] at hav
  dsimp only at hav
  omega

/-- **C01.6 for the translated code** — after any well-formed history every reader handle the callers hold has status `Channel_Ok`. -/
theorem status_stays_ok (cap data : Nat) (hd : 0 < data) (ops : List Op) (hwf : wfRun (Sys.init cap) ops = true)
    (r : CReader) (hr : r ∈ (crun (CSys.init cap data) ops).rds) : r.status = 0 := by
  obtain ⟨hs, hreach, _⟩ := history cap data hd ops hwf
  obtain ⟨i, hi, rfl⟩ := List.getElem_of_mem hr
  have h0 := C01.status_stays_ok hreach i (by rw [hs.rds_length]; exact hi)
  rw [hs.rd_nth hi] at h0
  exact h0

/-- **reader identity for the translated code** — after any well-formed history the `i`-th handle handed out carries id `i + 1` and
the channel counts exactly the handles handed out (`holds_n`): every handle names its own bookmark slot, no two share one. -/
theorem handle_ids (cap data : Nat) (hd : 0 < data) (ops : List Op) (hwf : wfRun (Sys.init cap) ops = true) :
    (crun (CSys.init cap data) ops).rds.length = (crun (CSys.init cap data) ops).ch.holds_n ∧
    ∀ (i : Nat) (hi : i < (crun (CSys.init cap data) ops).rds.length), ((crun (CSys.init cap data) ops).rds[i]).id = i + 1 := by
  obtain ⟨hs, hreach, _⟩ := history cap data hd ops hwf
  refine ⟨by rw [hs.holds_n hreach.inv, hs.rds_length], fun i hi => ?_⟩
  have h0 := (hreach.inv.rd i (by rw [← hreach.inv.l_rds, hs.rds_length]; exact hi)).1.id
  rw [hs.rd_nth hi] at h0
  exact h0

/-- **the cursors of the translated code stay inside the ring** — after any well-formed history the C fields satisfy
`head ≤ mapped ≤ capacity` and `high ≤ capacity` (so `data + head`, `data + mapped`, `data + high` never leave the allocation). -/
theorem cursors_in_bounds (cap data : Nat) (hd : 0 < data) (ops : List Op) (hwf : wfRun (Sys.init cap) ops = true) :
    (crun (CSys.init cap data) ops).ch.head ≤ (crun (CSys.init cap data) ops).ch.mapped ∧
    (crun (CSys.init cap data) ops).ch.mapped ≤ (crun (CSys.init cap data) ops).ch.capacity ∧
    (crun (CSys.init cap data) ops).ch.high ≤ (crun (CSys.init cap data) ops).ch.capacity := by
  obtain ⟨hs, hreach, _⟩ := history cap data hd ops hwf
  have h1 := hreach.inv.hm; have h2 := hreach.inv.mc; have h3 := hreach.inv.hc
  rw [← hs.ch] at h1 h2 h3
  exact ⟨h1, h2, h3⟩

/-- **the writer never passes a bookmark (C02, on the C fields)** — after any well-formed history every registered reader's bookmark
`(holds_cycles[i], holds_pos[i])` is either on the writer's lap and at or behind `head`, or exactly one lap behind and at or beyond
`mapped` (and within `high`): no reader is ever more than one lap behind, and nothing at or after a lagging bookmark has been mapped
for writing. -/
theorem bookmarks_behind_writer (cap data : Nat) (hd : 0 < data) (ops : List Op) (hwf : wfRun (Sys.init cap) ops = true)
    (i : Nat) (hi : i < (crun (CSys.init cap data) ops).ch.holds_n) :
    ((crun (CSys.init cap data) ops).ch.holds_cycles.getD i 0 = (crun (CSys.init cap data) ops).ch.cycle ∧
      (crun (CSys.init cap data) ops).ch.holds_pos.getD i 0 ≤ (crun (CSys.init cap data) ops).ch.head) ∨
    ((crun (CSys.init cap data) ops).ch.holds_cycles.getD i 0 + 1 = (crun (CSys.init cap data) ops).ch.cycle ∧
      (crun (CSys.init cap data) ops).ch.mapped ≤ (crun (CSys.init cap data) ops).ch.holds_pos.getD i 0 ∧
      (crun (CSys.init cap data) ops).ch.holds_pos.getD i 0 ≤ (crun (CSys.init cap data) ops).ch.high) := by
  obtain ⟨hs, hreach, _⟩ := history cap data hd ops hwf
  have hinv := hreach.inv
  have hold := (hinv.rd i (hs.holds_length ▸ hi)).1.hold
  rw [hs.hold_nth hi, ← hs.ch] at hold
  rcases hold with ⟨a, b, _⟩ | ⟨a, b, c, _⟩
  · exact Or.inl ⟨a, b⟩
  · exact Or.inr ⟨a, b, c⟩

/-- model level: a mapped reader's region never intersects `[head, mapped)`, the part of the ring handed out for writing -/
theorem model_region_avoids_pending {s : Sys} {g : Ghost} (hinv : Inv s g) (i : Nat) (hi : i < s.c.holds.length) :
    C02.regionLen s i = 0 ∨ (nth s.c.holds i).pos + C02.regionLen s i ≤ s.c.head ∨ s.c.mapped ≤ (nth s.c.holds i).pos := by
  have hext := (C02.region_extent hinv i hi).1
  have := hinv.hm
  unfold C02.regionBeg at hext
  omega

/-- **readers and the writer never share bytes (C02, on the C fields)** — after any well-formed history the region reader `i` has
mapped, `[holds_pos[i], holds_pos[i] + regionLen i)`, does not intersect `[head, mapped)`, the part of the ring currently handed out
for writing. -/
theorem mapped_regions_avoid_pending_write (cap data : Nat) (hd : 0 < data) (ops : List Op) (hwf : wfRun (Sys.init cap) ops = true)
    (i : Nat) (hi : i < (crun (CSys.init cap data) ops).ch.holds_n) :
    C02.regionLen (run (Sys.init cap) ops) i = 0 ∨
      (crun (CSys.init cap data) ops).ch.holds_pos.getD i 0 + C02.regionLen (run (Sys.init cap) ops) i
        ≤ (crun (CSys.init cap data) ops).ch.head ∨
      (crun (CSys.init cap data) ops).ch.mapped ≤ (crun (CSys.init cap data) ops).ch.holds_pos.getD i 0 := by
  obtain ⟨hs, hreach, _⟩ := history cap data hd ops hwf
  have hinv := hreach.inv
  have h := model_region_avoids_pending hinv i (hs.holds_length ▸ hi)
  rw [hs.hold_nth hi, ← hs.ch] at h
  exact h

/-! ## non-vacuity: a concrete history with a wrap, a lap change and partial consumption, run through the translated functions -/
def demoOps : List Op :=
  [.join, .wmap 10, .wcommit, .rmap 0, .runmap 0 10, .join, .runmap 1 10, .wmap 10, .wcommit, .rmap 0, .runmap 0 3,
   .rmap 1, .wmap 4, .wabort, .accept false, .wmap 2, .accept true, .runmap 1 99]

example : wfRun (Sys.init 16) demoOps = true := by decide
-- the translated code, run on that history from a fresh 16-byte channel at address 4096, has wrapped once and holds two readers
example : (crun (CSys.init 16 4096) demoOps).ch.cycle = 1 ∧ (crun (CSys.init 16 4096) demoOps).ch.holds_n = 2 ∧
    (crun (CSys.init 16 4096) demoOps).ch.holds_pos.take 2 = [3, 10] := by decide
-- and its abstraction is the model's state (an instance of `refine_history`, checked by evaluation)
example : (abs (crun (CSys.init 16 4096) demoOps).ch).holds = (run (Sys.init 16) demoOps).c.holds ∧
    (abs (crun (CSys.init 16 4096) demoOps).ch).head = (run (Sys.init 16) demoOps).c.head ∧
    (abs (crun (CSys.init 16 4096) demoOps).ch).cycle = (run (Sys.init 16) demoOps).c.cycle := by decide

-- `write_avoids_mapped_readers` is not vacuous: reader 0 holds the mapped region [4096, 4106) while the writer is handed [4106, 4110)
example : wfRun (Sys.init 16) [.join, .wmap 10, .wcommit, .rmap 0] = true ∧
    (cstep (crun (CSys.init 16 4096) [.join, .wmap 10, .wcommit, .rmap 0]) (.wmap 4)).2 = .wok 4106 ∧
    C02.regionLen (run (Sys.init 16) [.join, .wmap 10, .wcommit, .rmap 0]) 0 = 10 ∧
    (crun (CSys.init 16 4096) [.join, .wmap 10, .wcommit, .rmap 0]).ch.holds_pos.getD 0 0 = 0 := by decide

end AcqVerif.Channel.Refine
