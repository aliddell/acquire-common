import AcqVerif.Channel.Inv
/-! # Every well-formed operation preserves the channel invariant -/
namespace AcqVerif.Channel
open AcqVerif

theorem Inv.init (cap : Nat) : Inv (Sys.init cap) {} := by
  refine ⟨?_, ?_, ?_, ?_, rfl, rfl, rfl, rfl, ?_, ?_, ?_, ?_, ?_, ?_, ?_⟩ <;> simp [Sys.init]

/-- transport of a reader's invariant along a change of the writer's side: the reader's own record and ghosts stay, the three
clauses that mention the channel are supplied for the new channel -/
theorem RInv.of_writer_change {c c' : Chan} {total total' : Nat} {mem mem' : MemF} {h : Hold} {r : Rd}
    {ix j : Nat} {seen : List (Option Nat)} {i : Nat}
    (ri : RInv c total mem h r ix j seen i)
    (hhold : HoldRel c' total' h ix)
    (hprev : h.cyc + 1 = c'.cycle → ∀ o, h.pos ≤ o → o < c'.high → mem' o = some (total' - c'.head - (c'.high - o)))
    (hmapped : r.mapped = true → MappedRel c' h r) :
    RInv c' total' mem' h r ix j seen i :=
  ⟨hhold, hprev, ri.id, ri.st, hmapped, ri.seen_ok, ri.jle⟩

/-- committing bytes (`head` moves forward within the lap) keeps a mapped reader's relation to its bookmark -/
theorem MappedRel.of_head_le {c c' : Chan} {h : Hold} {r : Rd} (m : MappedRel c h r) (e1 : c'.cycle = c.cycle)
    (e2 : c'.high = c.high) (hle : c.head ≤ c'.head) : MappedRel c' h r := by
  unfold MappedRel at *
  rw [e1, e2]
  rcases m with ⟨a, b, c1, d⟩ | m
  · exact Or.inl ⟨a, b, fun e => Nat.le_trans (c1 e) hle, d⟩
  · exact Or.inr m

theorem HoldRel.commit {c : Chan} {total : Nat} {h : Hold} {ix : Nat} (hr : HoldRel c total h ix) (hm : c.head ≤ c.mapped) :
    HoldRel { c with head := c.mapped } (total + (c.mapped - c.head)) h ix := by
  rcases hr with ⟨a, b, e⟩ | ⟨a, b, b', e⟩
  · exact Or.inl ⟨a, by show h.pos ≤ c.mapped; omega, by show ix + (c.mapped - h.pos) = _; omega⟩
  · exact Or.inr ⟨a, b, b', by show ix + (c.high - h.pos) + c.mapped = _; omega⟩

/-- moving `mapped` matters only to a reader one lap behind: its bookmark has to stay at or beyond it -/
theorem HoldRel.map {c : Chan} {total : Nat} {h : Hold} {ix : Nat} (hr : HoldRel c total h ix) (m : Nat)
    (hm : h.cyc + 1 = c.cycle → m ≤ h.pos) : HoldRel { c with mapped := m } total h ix := by
  rcases hr with a | ⟨a, _, b, e⟩
  · exact Or.inl a
  · exact Or.inr ⟨a, hm a, b, e⟩

theorem RInv.congr_chan {c c' : Chan} {total : Nat} {mem : MemF} {h : Hold} {r : Rd}
    {ix j : Nat} {seen : List (Option Nat)} {i : Nat}
    (ri : RInv c total mem h r ix j seen i)
    (e1 : c'.head = c.head) (e2 : c'.high = c.high) (e3 : c'.cycle = c.cycle) (e4 : c'.mapped = c.mapped) :
    RInv c' total mem h r ix j seen i := by
  refine ⟨?_, ?_, ri.id, ri.st, ?_, ri.seen_ok, ri.jle⟩
  · have := ri.hold; unfold HoldRel at *; rw [e1, e2, e3, e4]; exact this
  · rw [e1, e2, e3]; exact ri.prev
  · intro hm; have := ri.mapped hm; unfold MappedRel at *; rw [e1, e2, e3]; exact this

theorem Inv.accept {s : Sys} {g : Ghost} (h : Inv s g) (b : Bool) :
    Inv (step s (.accept b)).1 (gstep s g (.accept b)) :=
  { h with rd := fun i hi => ⟨(h.rd i hi).1.congr_chan rfl rfl rfl rfl, (h.rd i hi).2⟩ }

theorem Inv.wabort {s : Sys} {g : Ghost} (h : Inv s g) :
    Inv (step s .wabort).1 (gstep s g .wabort) := by
  have := h.hm; have := h.mc
  simp only [step, gstep, abortWrite]
  split
  · refine { h with hm := Nat.le_refl _, mc := by simp only; omega, pend := by simp, rd := fun i hi => ?_ }
    obtain ⟨ri, hb⟩ := h.rd i hi
    refine ⟨ri.of_writer_change (ri.hold.map _ fun hc => ?_) ri.prev ri.mapped, hb⟩
    have := ri.hold; unfold HoldRel at this; omega
  · exact { h with pend := by simp }

theorem Inv.wcommit {s : Sys} {g : Ghost} (h : Inv s g) :
    Inv (step s .wcommit).1 (gstep s g .wcommit) := by
  have h1 := h.hm; have h2 := h.mc; have h3 := h.ht
  simp only [step, gstep, writeUnmap]
  split
  · -- accepting: the pending region becomes stream data
    have sub : ∀ b ∈ s.bounds, b ∈ if s.c.mapped - s.c.head = 0 then s.bounds else (s.total + (s.c.mapped - s.c.head)) :: s.bounds := by
      intro b hb; split
      · exact hb
      · exact List.mem_cons_of_mem _ hb
    refine { h with hm := Nat.le_refl _, ht := by simp only; omega, pend := by simp,
                    cur := ?cur, b_total := ?b_total, b_lap := ?b_lap, b_le := ?b_le, rd := ?rd, old := ?old }
    case cur =>
      intro o ho
      simp only at ho ⊢
      split
      · congr 1; omega
      · rw [h.cur o (by omega)]; congr 1; omega
    case b_total =>
      simp only; split
      · rename_i e; rw [e]; exact h.b_total
      · exact List.mem_cons_self
    case b_lap =>
      have e : s.total + (s.c.mapped - s.c.head) - s.c.mapped = s.total - s.c.head := by omega
      simp only; rw [e]; exact sub _ h.b_lap
    case b_le =>
      intro b hb
      simp only at hb ⊢
      split at hb
      · have := h.b_le b hb; omega
      · rcases List.mem_cons.mp hb with e | hb
        · omega
        · have := h.b_le b hb; omega
    case rd =>
      intro i hi
      obtain ⟨ri, hb⟩ := h.rd i hi
      refine ⟨ri.of_writer_change (ri.hold.commit h.hm) ?_ ?_, ?_⟩
      · intro hc o ho1 ho2
        have hh := ri.hold; unfold HoldRel at hh
        simp only at hc ho2 ⊢
        have hne : ¬ (s.c.head ≤ o ∧ o < s.c.mapped) := by omega
        rw [if_neg hne, ri.prev hc o ho1 ho2]; congr 1; omega
      · exact fun hm => (ri.mapped hm).of_head_le rfl rfl h.hm
      · exact sub _ hb
    case old =>
      intro o x hx ho
      simp only at hx ho ⊢
      rw [if_neg (by omega)] at hx
      have := h.old o x hx (by omega)
      omega
  · -- refused: nothing changes but the pending flag
    exact { h with pend := by simp }

/-- the three shapes a successful `channel_write_map` can take -/
theorem writeMap_ok_cases {s : Sys} {g : Ghost} (h : Inv s g) {n beg : Nat} {c' : Chan}
    (hw : writeMap s.c n = .ok beg c') :
    n < s.c.cap ∧
    ((beg = s.c.head ∧ c' = { s.c with mapped := s.c.head + n } ∧ s.c.head + n ≤ s.c.cap ∧
        ∀ i, i < s.c.holds.length → (nth s.c.holds i).cyc + 1 = s.c.cycle → s.c.head + n ≤ (nth s.c.holds i).pos) ∨
     (beg = 0 ∧ c' = { s.c with high := s.c.head, head := 0, cycle := s.c.cycle + 1, mapped := n } ∧
        ∀ i, i < s.c.holds.length → (nth s.c.holds i).cyc = s.c.cycle ∧ n ≤ (nth s.c.holds i).pos) ∨
     (beg = 0 ∧ c' = { s.c with high := s.c.head, head := 0, cycle := s.c.cycle + 1, mapped := n,
                                  holds := s.c.holds.map fun _ => ⟨0, s.c.cycle + 1⟩ } ∧
        ∀ i, i < s.c.holds.length → (nth s.c.holds i).cyc = s.c.cycle ∧ (nth s.c.holds i).pos = s.c.head)) := by
  have h1 := h.hm; have h2 := h.mc
  unfold writeMap at hw
  split at hw
  · cases hw
  · rename_i hn
    refine ⟨by omega, ?_⟩
    split at hw
    · -- no readers
      rename_i hemp
      have hlen : s.c.holds.length = 0 := List.length_eq_zero_iff.mpr (List.isEmpty_iff.mp hemp)
      split at hw <;> cases hw
      · exact Or.inr (Or.inl ⟨rfl, rfl, fun i hi => by omega⟩)
      · exact Or.inl ⟨rfl, rfl, by omega, fun i hi => by omega⟩
    · rename_i hne
      have hne' : s.c.holds ≠ [] := by intro e; simp [e] at hne
      split at hw
      · cases hw
      · cases hnw : nextWrite s.c n with
        | no => simp [hnw] at hw
        | «at» b w =>
          simp only [hnw] at hw
          rcases nextWrite_spec s.c s.total s.idx n b w (by omega) h.hm h.mc h.hc hne' (fun i hi => (h.rd i hi).1.hold) hnw with
            ⟨rfl, rfl, hfit, hp⟩ | ⟨rfl, hh0, rfl, hp⟩ | ⟨rfl, hh0, rfl, hp⟩
          · simp at hw
            obtain ⟨rfl, rfl⟩ := hw
            exact Or.inl ⟨rfl, rfl, hfit, hp⟩
          · simp [Ne.symm hh0] at hw
            obtain ⟨rfl, rfl⟩ := hw
            exact Or.inr (Or.inl ⟨rfl, rfl, hp⟩)
          · simp [Ne.symm hh0] at hw
            obtain ⟨rfl, rfl⟩ := hw
            exact Or.inr (Or.inr ⟨rfl, rfl, hp⟩)

theorem writeMap_of_wok {s : Sys} {n beg : Nat} (hw : (step s (.wmap n)).2 = .wok beg) : ∃ c', writeMap s.c n = .ok beg c' := by
  simp only [step] at hw
  split at hw <;> cases hw
  exact ⟨_, ‹_›⟩

/-- after a wrap, everything that is still in memory is at least one lap old -/
theorem wrap_old {s : Sys} {g : Ghost} (h : Inv s g) (n : Nat) :
    ∀ o x, (if 0 ≤ o ∧ o < 0 + n then none else g.mem o) = some x → 0 ≤ o →
      (o < s.c.head → x + (s.c.head - o) + 0 ≤ s.total) ∧ (s.c.head ≤ o → x + s.c.head + 0 < s.total) := by
  intro o x hx _
  have h3 := h.ht
  split at hx
  · cases hx
  · refine ⟨fun ho => ?_, fun ho => ?_⟩
    · have := h.cur o ho; rw [hx] at this; cases this; omega
    · have := h.old o x hx ho; omega

theorem Inv.wmap {s : Sys} {g : Ghost} (h : Inv s g) (n : Nat) :
    Inv (step s (.wmap n)).1 (gstep s g (.wmap n)) := by
  have h1 := h.hm; have h2 := h.mc; have h3 := h.ht
  simp only [step, gstep]
  cases hw : writeMap s.c n with
  | null => exact h
  | block => exact h
  | ok beg c' =>
    obtain ⟨hn, hcases⟩ := writeMap_ok_cases h hw
    simp only
    rcases hcases with ⟨rfl, rfl, hfit, hp⟩ | ⟨rfl, rfl, hp⟩ | ⟨rfl, rfl, hp⟩
    · -- the region starts at `head`
      refine { h with hm := Nat.le_add_right _ _, mc := hfit, pend := fun _ => ⟨rfl, rfl⟩, cur := ?cur, rd := ?rd, old := ?old }
      case cur =>
        intro o ho
        simp only at ho ⊢
        rw [if_neg (by omega)]; exact h.cur o ho
      case rd =>
        intro i hi
        obtain ⟨ri, hbd⟩ := h.rd i hi
        refine ⟨ri.of_writer_change (ri.hold.map _ (hp i hi)) ?_ ri.mapped, hbd⟩
        intro hc o ho1 ho2
        have := hp i hi hc
        simp only at hc ho2 ⊢
        rw [if_neg (by omega)]; exact ri.prev hc o ho1 ho2
      case old =>
        intro o x hx ho
        simp only at hx ho ⊢
        split at hx
        · cases hx
        · exact h.old o x hx ho
    · -- wrap: the region starts at 0, readers keep their cursors (now one lap behind)
      refine { h with hm := Nat.zero_le _, mc := Nat.le_of_lt hn, hc := Nat.le_trans h1 h2, ht := Nat.zero_le _,
                      b_lap := h.b_total, pend := fun _ => ⟨rfl, Nat.zero_add _⟩, cur := fun o ho => absurd ho (Nat.not_lt_zero o),
                      old := wrap_old h n, rd := ?_ }
      intro i hi
      obtain ⟨ri, hbd⟩ := h.rd i hi
      obtain ⟨hcy, hnp⟩ := hp i hi
      have hh := ri.hold; unfold HoldRel at hh
      refine ⟨ri.of_writer_change (Or.inr ⟨?_, hnp, ?_, ?_⟩) ?_ ?_, hbd⟩
      · simp only; omega
      · simp only; omega
      · simp only; omega
      · intro _ o ho1 ho2
        simp only at ho2 ⊢
        rw [if_neg (by omega), h.cur o ho2, Nat.sub_zero]
      · intro hm
        have := ri.mapped hm
        unfold MappedRel at *; simp only; omega
    · -- wrap with reset: every reader is drained and is moved to the start of the new lap
      refine { h with hm := Nat.zero_le _, mc := Nat.le_of_lt hn, hc := Nat.le_trans h1 h2, ht := Nat.zero_le _,
                      l_idx := by simp [h.l_idx], l_rds := by simp [h.l_rds], l_join := by simp [h.l_join], l_seen := by simp [h.l_seen],
                      b_lap := h.b_total, pend := fun _ => ⟨rfl, Nat.zero_add _⟩, cur := fun o ho => absurd ho (Nat.not_lt_zero o),
                      old := wrap_old h n, rd := ?_ }
      intro i hi
      simp only [List.length_map] at hi
      obtain ⟨ri, hbd⟩ := h.rd i hi
      obtain ⟨hcy, hnp⟩ := hp i hi
      have hh := ri.hold; unfold HoldRel at hh
      simp only
      rw [nth_map_const _ _ _ hi]
      refine ⟨⟨Or.inl ⟨rfl, Nat.le_refl 0, ?_⟩, ?_, ri.id, ri.st, ?_, ri.seen_ok, ri.jle⟩, hbd⟩
      · simp only; omega
      · intro hc; simp at hc
      · intro hm
        have := ri.mapped hm
        unfold MappedRel at this; omega

/-! ## reader side -/

/-- replacing the hold and the handle of reader `i` -/
theorem Inv.set_reader {s : Sys} {g : Ghost} (h : Inv s g) (i : Nat) (hi : i < s.c.holds.length)
    (h' : Hold) (r' : Rd) (ix' : Nat) (seen' : List (Option Nat))
    (hr : RInv s.c s.total g.mem h' r' ix' (nth s.join i) seen' i) :
    Inv { s with c := setHold s.c i h', rds := s.rds.set i r', idx := s.idx.set i ix' }
        { g with seen := g.seen.set i seen' } := by
  refine { h with l_idx := by simp [setHold, h.l_idx], l_rds := by simp [setHold, h.l_rds], l_join := by simp [setHold, h.l_join],
                  l_seen := by simp [setHold, h.l_seen], rd := ?_ }
  intro k hk
  simp only [setHold, List.length_set] at hk
  simp only [setHold]
  by_cases e : i = k
  · subst e
    rw [nth_set_eq _ _ _ hk, nth_set_eq _ _ _ (by rw [h.l_rds]; exact hk), nth_set_eq _ _ _ (by rw [h.l_idx]; exact hk),
      nth_set_eq _ _ _ (by rw [h.l_seen]; exact hk)]
    exact ⟨hr.congr_chan rfl rfl rfl rfl, (h.rd i hi).2⟩
  · rw [nth_set_ne _ _ _ _ e, nth_set_ne _ _ _ _ e, nth_set_ne _ _ _ _ e, nth_set_ne _ _ _ _ e]
    exact ⟨(h.rd k hk).1.congr_chan rfl rfl rfl rfl, (h.rd k hk).2⟩

theorem setHold_self (c : Chan) (i : Nat) : setHold c i (nth c.holds i) = c := by
  simp [setHold, list_set_nth_self]

/-- replacing only the handle of reader `i` -/
theorem Inv.set_rd {s : Sys} {g : Ghost} (h : Inv s g) (i : Nat) (hi : i < s.c.holds.length) (r' : Rd)
    (hr : RInv s.c s.total g.mem (nth s.c.holds i) r' (nth s.idx i) (nth s.join i) (nth g.seen i) i) :
    Inv { s with rds := s.rds.set i r' } g := by
  have := h.set_reader i hi (nth s.c.holds i) r' (nth s.idx i) (nth g.seen i) hr
  rw [setHold_self, list_set_nth_self, list_set_nth_self] at this
  exact this

/-- replacing hold and handle of reader `i`, ghost index and consumed bytes unchanged -/
theorem Inv.set_hold_rd {s : Sys} {g : Ghost} (h : Inv s g) (i : Nat) (hi : i < s.c.holds.length)
    (h' : Hold) (r' : Rd)
    (hr : RInv s.c s.total g.mem h' r' (nth s.idx i) (nth s.join i) (nth g.seen i) i) :
    Inv { s with c := setHold s.c i h', rds := s.rds.set i r' } g := by
  have := h.set_reader i hi h' r' (nth s.idx i) (nth g.seen i) hr
  rw [list_set_nth_self, list_set_nth_self] at this
  exact this

/-- the five outcomes of `channel_read_map` for a registered, unmapped reader whose hold satisfies `HoldRel` -/
theorem readMapCore_cases (c : Chan) (r : Rd) (i total ix : Nat) (h : Hold) (hun : r.mapped = false)
    (hrel : HoldRel c total h ix) (hm : c.head ≤ c.mapped) :
    (h.pos = c.head ∧ h.cyc = c.cycle ∧
      readMapCore c r i h = (c, r, ⟨h.pos, 0⟩)) ∨
    (h.pos < c.head ∧ h.cyc = c.cycle ∧
      readMapCore c r i h = (c, { r with pos := c.head, cyc := c.cycle, mapped := true }, ⟨h.pos, c.head - h.pos⟩)) ∨
    (h.cyc + 1 = c.cycle ∧ h.pos = c.high ∧ c.head = 0 ∧
      readMapCore c r i h = (setHold c i ⟨0, c.cycle⟩, { r with pos := 0, cyc := h.cyc + 1 }, ⟨0, 0⟩)) ∨
    (h.cyc + 1 = c.cycle ∧ h.pos = c.high ∧ c.head ≠ 0 ∧
      readMapCore c r i h = (setHold c i ⟨0, c.cycle⟩, { r with pos := c.head, cyc := c.cycle, mapped := true }, ⟨0, c.head⟩)) ∨
    (h.cyc + 1 = c.cycle ∧ h.pos < c.high ∧ c.head ≤ h.pos ∧
      readMapCore c r i h = (c, { r with pos := 0, cyc := h.cyc + 1, mapped := true }, ⟨h.pos, c.high - h.pos⟩)) := by
  unfold HoldRel at hrel
  unfold readMapCore
  simp only [hun, Bool.false_eq_true, ↓reduceIte]
  by_cases e1 : h.pos = c.head ∧ h.cyc = c.cycle
  · left; rw [if_pos e1]; exact ⟨e1.1, e1.2, rfl⟩
  · rw [if_neg e1]
    by_cases e2 : h.pos < c.head
    · rw [if_pos e2]
      have e3 : ¬ (h.cyc ≠ c.cycle) := by omega
      rw [if_neg e3]
      right; left; exact ⟨e2, by omega, rfl⟩
    · rw [if_neg e2]
      have e3 : ¬ (c.cycle ≠ h.cyc + 1) := by omega
      rw [if_neg e3]
      by_cases e4 : c.high - h.pos = 0
      · rw [if_pos e4]
        by_cases e5 : c.head = 0
        · rw [if_pos e5]; right; right; left; exact ⟨by omega, by omega, e5, rfl⟩
        · rw [if_neg e5]; right; right; right; left; exact ⟨by omega, by omega, e5, rfl⟩
      · rw [if_neg e4]; right; right; right; right; exact ⟨by omega, by omega, by omega, rfl⟩

/-- `channel_read_map` for a registered, unmapped reader: the handle is mapped exactly when the region is not empty, an empty
region means the reader is drained, and a region lies within the committed bytes and within the buffer -/
theorem Inv.readMapAt_spec {s : Sys} {g : Ghost} (h : Inv s g) (i : Nat) (hi : i < s.c.holds.length)
    (hun : (nth s.rds i).mapped = false) {c' : Chan} {r' : Rd} {sl : Slice}
    (e : readMapAt s.c (nth s.rds i) i = (c', r', sl)) :
    Inv { s with c := c', rds := s.rds.set i r' } g ∧ r'.status = 0 ∧ r'.mapped = decide (0 < sl.len) ∧
    (sl.len = 0 → nth s.idx i = s.total) ∧ nth s.idx i + sl.len ≤ s.total ∧ sl.beg + sl.len ≤ s.c.cap ∧
    (0 < sl.len → sl.beg = (nth c'.holds i).pos ∧ availBytes r' (nth c'.holds i) s.c.high = sl.len) := by
  obtain ⟨ri, hb⟩ := h.rd i hi
  have h1 := h.hm; have h2 := h.mc; have h3 := h.hc; have h4 := h.ht
  have hrel := ri.hold
  rcases readMapCore_cases s.c (nth s.rds i) i s.total (nth s.idx i) (nth s.c.holds i) hun hrel h.hm with
    ⟨e1, e2, e'⟩ | ⟨e1, e2, e'⟩ | ⟨e1, e2, e3, e'⟩ | ⟨e1, e2, e3, e'⟩ | ⟨e1, e2, e3, e'⟩
  all_goals (cases e'.symm.trans e; unfold HoldRel at hrel; simp only)
  · -- caught up
    refine ⟨?_, ri.st, by rw [hun]; rfl, fun _ => by omega, by omega, by omega, fun hl => absurd hl (Nat.lt_irrefl 0)⟩
    rw [list_set_nth_self]; exact h
  · -- same lap, data available
    refine ⟨h.set_rd i hi _ ⟨ri.hold, ri.prev, ri.id, ri.st, fun _ => Or.inl ⟨e2.symm, e1, fun _ => Nat.le_refl _, fun hc => ?_⟩,
      ri.seen_ok, ri.jle⟩, ri.st, (decide_eq_true (by omega)).symm, fun hl => by omega, by omega, by omega,
      fun _ => ⟨trivial, availBytes_same _ _ _ e1⟩⟩
    omega
  · -- lap change, nothing committed in the new lap yet
    refine ⟨h.set_hold_rd i hi _ _ ⟨Or.inl ⟨rfl, Nat.zero_le _, ?_⟩, fun hc => ?_, ri.id, ri.st, fun hm => ?_, ri.seen_ok, ri.jle⟩,
      ri.st, by rw [hun]; rfl, fun _ => by omega, by omega, by omega, fun hl => absurd hl (Nat.lt_irrefl 0)⟩
    · show _ + (s.c.head - 0) = _; omega
    · simp only at hc; omega
    · simp only at hm; rw [hun] at hm; cases hm
  · -- lap change, data committed in the new lap
    refine ⟨h.set_hold_rd i hi _ _ ⟨Or.inl ⟨rfl, Nat.zero_le _, ?_⟩, fun hc => ?_, ri.id, ri.st,
        fun _ => Or.inl ⟨rfl, Nat.pos_of_ne_zero e3, fun _ => Nat.le_refl _, fun hc => ?_⟩, ri.seen_ok, ri.jle⟩,
      ri.st, (decide_eq_true (Nat.pos_of_ne_zero e3)).symm, fun hl => by omega, by omega, by omega, fun _ => ?_⟩
    · show _ + (s.c.head - 0) = _; omega
    · simp only at hc; omega
    · simp only at hc; omega
    · simp only [setHold]
      rw [nth_set_eq _ _ _ hi, availBytes_same _ _ _ (Nat.pos_of_ne_zero e3)]
      exact ⟨rfl, rfl⟩
  · -- rest of the old lap
    exact ⟨h.set_rd i hi _ ⟨ri.hold, ri.prev, ri.id, ri.st, fun _ => Or.inr ⟨rfl, rfl, e2, e1⟩, ri.seen_ok, ri.jle⟩,
      ri.st, (decide_eq_true (by omega)).symm, fun hl => by omega, by omega, by omega,
      fun _ => ⟨trivial, availBytes_next _ _ _ rfl rfl⟩⟩

/-- the same in terms of the components of `readMapAt`'s result -/
theorem Inv.read_map_at {s : Sys} {g : Ghost} (h : Inv s g) (i : Nat) (hi : i < s.c.holds.length)
    (hun : (nth s.rds i).mapped = false) :
    Inv { s with c := (readMapAt s.c (nth s.rds i) i).1, rds := s.rds.set i (readMapAt s.c (nth s.rds i) i).2.1 } g ∧
    ((readMapAt s.c (nth s.rds i) i).2.2.len = 0 →
        nth s.idx i = s.total ∧ (readMapAt s.c (nth s.rds i) i).2.1.mapped = false) ∧
    ((readMapAt s.c (nth s.rds i) i).2.2.len > 0 →
        (readMapAt s.c (nth s.rds i) i).2.1.mapped = true ∧
        (readMapAt s.c (nth s.rds i) i).2.2.beg = (nth (readMapAt s.c (nth s.rds i) i).1.holds i).pos ∧
        (readMapAt s.c (nth s.rds i) i).2.2.len =
          availBytes (readMapAt s.c (nth s.rds i) i).2.1 (nth (readMapAt s.c (nth s.rds i) i).1.holds i) s.c.high ∧
        nth s.idx i + (readMapAt s.c (nth s.rds i) i).2.2.len ≤ s.total ∧
        (readMapAt s.c (nth s.rds i) i).2.2.beg + (readMapAt s.c (nth s.rds i) i).2.2.len ≤ s.c.cap) ∧
    (readMapAt s.c (nth s.rds i) i).2.1.status = 0 := by
  rcases e : readMapAt s.c (nth s.rds i) i with ⟨c', r', sl⟩
  obtain ⟨hinv, hst, hm, h0, hle, hcap, hpos⟩ := h.readMapAt_spec i hi hun e
  exact ⟨hinv, fun hl => ⟨h0 hl, hm.trans (decide_eq_false (Nat.not_lt.mpr (Nat.le_of_eq hl)))⟩,
    fun hl => ⟨hm.trans (decide_eq_true hl), (hpos hl).1, (hpos hl).2.symm, hle, hcap⟩, hst⟩

/-- `channel_read_map` touches nothing of the channel but the bookmarks (`apply_ite` pushes each projection through the branches) -/
theorem readMapCore_fields (c : Chan) (r : Rd) (i : Nat) (h : Hold) :
    (readMapCore c r i h).1.high = c.high ∧ (readMapCore c r i h).1.head = c.head ∧
    (readMapCore c r i h).1.cycle = c.cycle ∧ (readMapCore c r i h).1.mapped = c.mapped ∧
    (readMapCore c r i h).1.cap = c.cap ∧ (readMapCore c r i h).1.accepting = c.accepting := by
  simp only [readMapCore, setHold, apply_ite Prod.fst, apply_ite Chan.high, apply_ite Chan.head, apply_ite Chan.cycle,
    apply_ite Chan.mapped, apply_ite Chan.cap, apply_ite Chan.accepting, ite_self, and_self]

/-- … and of the bookmarks only the reader's own -/
theorem readMapCore_holds_ne (c : Chan) (r : Rd) (i : Nat) (h : Hold) (j : Nat) (hne : i ≠ j) :
    nth (readMapCore c r i h).1.holds j = nth c.holds j := by
  simp only [readMapCore, setHold, apply_ite Prod.fst, apply_ite Chan.holds, apply_ite (nth · j), nth_set_ne _ _ _ _ hne,
    ite_self]

theorem readMap_fields (c : Chan) (r : Rd) :
    (readMap c r).1.high = c.high ∧ (readMap c r).1.head = c.head ∧ (readMap c r).1.cycle = c.cycle ∧
    (readMap c r).1.mapped = c.mapped ∧ (readMap c r).1.cap = c.cap ∧ (readMap c r).1.accepting = c.accepting := by
  unfold readMap readerInit readMapAt
  by_cases e : r.id > 0
  · rw [if_pos e]; exact readMapCore_fields _ _ _ _
  · rw [if_neg e]; exact readMapCore_fields _ _ _ _

/-- **The region handed to a reader holds exactly the next bytes of the committed stream.** -/
theorem Inv.read_map_bytes {s : Sys} {g : Ghost} (h : Inv s g) (i : Nat) (hi : i < s.c.holds.length)
    (hun : (nth s.rds i).mapped = false) {c' : Chan} {r' : Rd} {sl : Slice}
    (e : readMapAt s.c (nth s.rds i) i = (c', r', sl)) :
    ∀ j, j < sl.len → g.mem (sl.beg + j) = some (nth s.idx i + j) := by
  intro j hj
  obtain ⟨hinv, _, hm, _, _, _, hpos⟩ := h.readMapAt_spec i hi hun e
  obtain ⟨hbeg, hlen⟩ := hpos (by omega)
  have hi' : i < c'.holds.length := by
    have := hinv.l_rds; simp only [List.length_set] at this; rw [← this, h.l_rds]; exact hi
  obtain ⟨ri, _⟩ := hinv.rd i hi'
  simp only at ri
  rw [nth_set_eq _ _ _ (by rw [h.l_rds]; exact hi)] at ri
  have hhigh : c'.high = s.c.high :=
    (congrArg (fun t => t.1.high) e).symm.trans (readMapCore_fields s.c (nth s.rds i) i _).1
  rw [hbeg]
  apply region_bytes _ _ _ _ _ _ ri.hold ri.prev hinv.cur (ri.mapped (hm.trans (decide_eq_true (by omega))))
  rw [hhigh, hlen]; exact hj

theorem readMap_registered (c : Chan) (r : Rd) (i : Nat) (hid : r.id = i + 1) :
    readMap c r = readMapAt c r i := by
  unfold readMap readerInit
  rw [if_pos (by omega)]
  simp only [hid, Nat.add_sub_cancel]

/-- facts about a well-formed `rmap i` -/
theorem rmap_wf {s : Sys} {g : Ghost} (h : Inv s g) {i : Nat} (hwf : (Op.rmap i).wf s = true) :
    i < s.c.holds.length ∧ s.rds[i]? = some (nth s.rds i) ∧ (nth s.rds i).mapped = false := by
  simp only [Op.wf] at hwf
  cases hr : s.rds[i]? with
  | none => simp [hr] at hwf
  | some r =>
    obtain ⟨hlt, rfl⟩ := of_getElem?_eq_some hr
    exact ⟨by rw [← h.l_rds]; exact hlt, rfl, by simpa [hr] using hwf⟩

theorem Inv.rmap {s : Sys} {g : Ghost} (h : Inv s g) (i : Nat) (hwf : (Op.rmap i).wf s = true) :
    Inv (step s (.rmap i)).1 (gstep s g (.rmap i)) := by
  obtain ⟨hi, hr, hun⟩ := rmap_wf h hwf
  simp only [step, gstep, hr]
  rw [readMap_registered _ _ i (h.rd i hi).1.id]
  rcases e : readMapAt s.c (nth s.rds i) i with ⟨c', r', sl⟩
  exact (h.readMapAt_spec i hi hun e).1

/-- the state right after `reader_initialize` registered a new reader -/
def Sys.joined (s : Sys) : Sys :=
  { s with c := { s.c with holds := s.c.holds ++ [⟨0, s.c.cycle⟩] },
           rds := s.rds ++ [{ id := s.c.holds.length + 1 }],
           idx := s.idx ++ [s.total - s.c.head], join := s.join ++ [s.total - s.c.head] }

theorem Inv.joined {s : Sys} {g : Ghost} (h : Inv s g) : Inv s.joined { g with seen := g.seen ++ [[]] } := by
  have h4 := h.ht
  refine { h with l_idx := by simp [Sys.joined, h.l_idx], l_rds := by simp [Sys.joined, h.l_rds], l_join := by simp [Sys.joined, h.l_join],
                  l_seen := by simp [Sys.joined, h.l_seen], rd := ?_ }
  intro k hk
  simp only [Sys.joined, List.length_append, List.length_cons, List.length_nil] at hk
  simp only [Sys.joined]
  by_cases e : k < s.c.holds.length
  · rw [nth_append_lt _ _ _ e, nth_append_lt _ _ _ (by rw [h.l_rds]; exact e), nth_append_lt _ _ _ (by rw [h.l_idx]; exact e),
      nth_append_lt _ _ _ (by rw [h.l_join]; exact e), nth_append_lt _ _ _ (by rw [h.l_seen]; exact e)]
    exact ⟨(h.rd k e).1.congr_chan rfl rfl rfl rfl, (h.rd k e).2⟩
  · have ek : k = s.c.holds.length := by omega
    subst ek
    rw [nth_append_length, nth_append_eq _ _ h.l_rds, nth_append_eq _ _ h.l_idx, nth_append_eq _ _ h.l_join, nth_append_eq _ _ h.l_seen]
    refine ⟨⟨?_, ?_, rfl, rfl, ?_, ?_, Nat.le_refl _⟩, h.b_lap⟩
    · left; refine ⟨rfl, Nat.zero_le _, ?_⟩; show _ + (s.c.head - 0) = _; omega
    · intro hc; simp only at hc; omega
    · intro hm; cases hm
    · simp

theorem Inv.join {s : Sys} {g : Ghost} (h : Inv s g) :
    Inv (step s .join).1 (gstep s g .join) := by
  have hr0 : nth s.joined.rds s.c.holds.length = { id := s.c.holds.length + 1 } := nth_append_eq _ _ h.l_rds
  have := (h.joined.readMapAt_spec s.c.holds.length (by simp [Sys.joined]) (by rw [hr0]) rfl).1
  rw [hr0] at this
  have hset : ∀ r', (s.rds ++ [({ id := s.c.holds.length + 1 } : Rd)]).set s.c.holds.length r' = s.rds ++ [r'] := by
    intro r'; rw [← h.l_rds]; exact list_set_append_last _ _ _
  simp only [Sys.joined, hset] at this
  simp only [step, gstep, readMap, readerInit, Nat.lt_irrefl, ↓reduceIte, Nat.add_sub_cancel]
  exact this

theorem Inv.runmap {s : Sys} {g : Ghost} (h : Inv s g) (i k : Nat) (hwf : (Op.runmap i k).wf s = true) :
    Inv (step s (.runmap i k)).1 (gstep s g (.runmap i k)) := by
  simp only [Op.wf, decide_eq_true_eq] at hwf
  have hi : i < s.c.holds.length := by rw [← h.l_rds]; exact hwf
  obtain ⟨ri, hb⟩ := h.rd i hi
  simp only [step, gstep, getElem?_eq_some_nth _ _ hwf, readUnmap, getD_zero_eq_nth, getD_default_eq_nth]
  by_cases hm : (nth s.rds i).mapped = true
  · -- mapped: the hold advances by the consumed bytes
    have hid : (nth s.rds i).id - 1 = i := by rw [ri.id]; omega
    simp only [hm, Bool.not_true, Bool.false_eq_true, ↓reduceIte, hid]
    have hspec := unmapHold_spec s.c s.total g.mem (nth s.c.holds i) (nth s.rds i) (nth s.idx i) k ri.hold ri.prev (ri.mapped hm)
    have hbytes := region_bytes s.c s.total g.mem (nth s.c.holds i) (nth s.rds i) (nth s.idx i) ri.hold ri.prev h.cur (ri.mapped hm)
    apply h.set_reader i hi
    refine ⟨hspec.1, hspec.2, ri.id, ri.st, (fun hc => nomatch hc), ?_, by have := ri.jle; omega⟩
    rw [ri.seen_ok]
    exact seen_extend (fun t ht => hbytes t (by omega)) ri.jle
  · -- not mapped: nothing happens
    have hm' : (nth s.rds i).mapped = false := by simpa using hm
    simp only [hm', Bool.not_false, ↓reduceIte, Bool.false_eq_true, Nat.zero_min, Nat.add_zero]
    rw [list_set_nth_self, list_set_nth_self]
    exact h

/-- **One-step invariance** for every operation that obeys the usage rules. -/
theorem Inv.step {s : Sys} {g : Ghost} (h : Inv s g) (op : Op) (hwf : op.wf s = true) :
    Inv (Channel.step s op).1 (gstep s g op) := by
  cases op with
  | wmap n => exact h.wmap n
  | wcommit => exact h.wcommit
  | wabort => exact h.wabort
  | accept b => exact h.accept b
  | join => exact h.join
  | rmap i => exact h.rmap i hwf
  | runmap i k => exact h.runmap i k hwf

/-- **Every reachable state** satisfies the invariant. -/
theorem Inv.run {s : Sys} {g : Ghost} (h : Inv s g) (ops : List Op) (hwf : wfRun s ops = true) :
    Inv (Channel.run s ops) (grun s g ops) := by
  induction ops generalizing s g with
  | nil => exact h
  | cons op ops ih =>
    simp only [wfRun, Bool.and_eq_true] at hwf
    exact ih (h.step op hwf.1) hwf.2

/-- a state reachable from a fresh channel of capacity `cap` by a well-formed history -/
structure Reachable (cap : Nat) (s : Sys) (g : Ghost) : Prop where
  hist : ∃ ops, wfRun (Sys.init cap) ops = true ∧ s = Channel.run (Sys.init cap) ops ∧ g = grun (Sys.init cap) {} ops

theorem Reachable.inv {cap : Nat} {s : Sys} {g : Ghost} (r : Reachable cap s g) : Inv s g := by
  obtain ⟨ops, hwf, rfl, rfl⟩ := r.hist
  exact (Inv.init cap).run ops hwf

theorem run_append (s : Sys) (a b : List Op) : Channel.run s (a ++ b) = Channel.run (Channel.run s a) b := by
  induction a generalizing s with
  | nil => rfl
  | cons x t ih => exact ih _

theorem grun_append (s : Sys) (g : Ghost) (a b : List Op) :
    grun s g (a ++ b) = grun (Channel.run s a) (grun s g a) b := by
  induction a generalizing s g with
  | nil => rfl
  | cons x t ih => exact ih _ _

theorem wfRun_append (s : Sys) (a b : List Op) :
    wfRun s (a ++ b) = (wfRun s a && wfRun (Channel.run s a) b) := by
  induction a generalizing s with
  | nil => simp [wfRun, Channel.run]
  | cons x t ih => simp [wfRun, Channel.run, ih, Bool.and_assoc]

theorem writeMap_frame (c : Chan) (n beg : Nat) (c' : Chan) (h : writeMap c n = .ok beg c') :
    c'.cap = c.cap ∧ c'.accepting = c.accepting := by
  unfold writeMap at h
  split at h
  · cases h
  · split at h
    · split at h <;> cases h <;> exact ⟨rfl, rfl⟩
    · split at h
      · cases h
      · split at h
        · cases h
        · cases h
          simp only [apply_ite Chan.cap, apply_ite Chan.accepting, ite_self, and_self]

/-- no operation changes the capacity, and only `channel_accept_writes` changes whether writes are accepted -/
theorem step_cap_accepting (s : Sys) (op : Op) :
    (Channel.step s op).1.c.cap = s.c.cap ∧
    ((∀ b, op ≠ .accept b) → (Channel.step s op).1.c.accepting = s.c.accepting) := by
  cases op with
  | wmap n =>
    simp only [Channel.step]
    cases hw : writeMap s.c n with
    | null => exact ⟨rfl, fun _ => rfl⟩
    | block => exact ⟨rfl, fun _ => rfl⟩
    | ok beg c' => exact ⟨(writeMap_frame _ _ _ _ hw).1, fun _ => (writeMap_frame _ _ _ _ hw).2⟩
  | wcommit => simp only [Channel.step, writeUnmap]; (repeat' split) <;> exact ⟨rfl, fun _ => rfl⟩
  | wabort => simp only [Channel.step, abortWrite]; (repeat' split) <;> exact ⟨rfl, fun _ => rfl⟩
  | accept b => exact ⟨rfl, fun h => absurd rfl (h b)⟩
  | join => exact ⟨(readMap_fields s.c {}).2.2.2.2.1, fun _ => (readMap_fields s.c {}).2.2.2.2.2⟩
  | rmap i =>
    simp only [Channel.step]
    split
    · exact ⟨rfl, fun _ => rfl⟩
    · exact ⟨(readMap_fields _ _).2.2.2.2.1, fun _ => (readMap_fields _ _).2.2.2.2.2⟩
  | runmap i k =>
    simp only [Channel.step]
    split
    · exact ⟨rfl, fun _ => rfl⟩
    · simp only [readUnmap]; split <;> exact ⟨rfl, fun _ => rfl⟩

theorem run_cap (s0 : Sys) (ops : List Op) : (Channel.run s0 ops).c.cap = s0.c.cap := by
  induction ops generalizing s0 with
  | nil => rfl
  | cons op ops ih => rw [Channel.run, ih, (step_cap_accepting s0 op).1]

theorem Reachable.cap {cap : Nat} {s : Sys} {g : Ghost} (r : Reachable cap s g) : s.c.cap = cap := by
  obtain ⟨ops, _, rfl, _⟩ := r.hist
  rw [run_cap]; rfl

theorem Reachable.init (cap : Nat) : Reachable cap (Sys.init cap) {} := ⟨⟨[], rfl, rfl, rfl⟩⟩

theorem Reachable.step {cap : Nat} {s : Sys} {g : Ghost} (r : Reachable cap s g) (op : Op) (hwf : op.wf s = true) :
    Reachable cap (Channel.step s op).1 (gstep s g op) := by
  obtain ⟨ops, h1, rfl, rfl⟩ := r.hist
  refine ⟨⟨ops ++ [op], ?_, ?_, ?_⟩⟩
  · rw [wfRun_append, h1]; simp [wfRun, hwf]
  · rw [run_append]; rfl
  · rw [grun_append]; rfl

theorem Reachable.run {cap : Nat} {s : Sys} {g : Ghost} (r : Reachable cap s g) (ops : List Op) (hwf : wfRun s ops = true) :
    Reachable cap (Channel.run s ops) (grun s g ops) := by
  induction ops generalizing s g with
  | nil => exact r
  | cons op ops ih =>
    simp only [wfRun, Bool.and_eq_true] at hwf
    exact ih (r.step op hwf.1) hwf.2

end AcqVerif.Channel
