import AcqVerif.Channel.InvStep
/-!
# A reader that keeps reading reaches the drained state in a bounded number of calls

With the writer quiescent, `read_map; read_unmap(all)` hands out everything that is
committed in at most two non-empty regions (the rest of the previous lap, then the
current lap); the third `read_map` is empty.
-/
namespace AcqVerif.Channel
open AcqVerif

/-- `channel_read_map` followed by `channel_read_unmap` of the whole region -/
def readAll (s : Sys) (i : Nat) : Sys := (step (step s (.rmap i)).1 (.runmap i s.c.cap)).1

/-- length of the region `channel_read_map` returns to reader `i` -/
def readLen (s : Sys) (i : Nat) : Nat := (readMapAt s.c (nth s.rds i) i).2.2.len

/-- bytes committed but not yet consumed by reader `i` -/
def unread (s : Sys) (i : Nat) : Nat := s.total - nth s.idx i

/-- `HoldRel` read as a distance: what reader `i` has not consumed lies between its bookmark and the writer's
cursor, on the same lap or across the lap change -/
theorem HoldRel.unread {c : Chan} {total ix : Nat} {h : Hold} (hrel : HoldRel c total h ix) :
    ix ≤ total ∧ ((h.cyc = c.cycle ∧ h.pos ≤ c.head ∧ total - ix = c.head - h.pos) ∨
      (h.cyc + 1 = c.cycle ∧ h.pos ≤ c.high ∧ total - ix = c.high - h.pos + c.head)) := by
  rcases hrel with ⟨a, b, d⟩ | ⟨a, _, b, d⟩
  · exact ⟨Nat.le.intro d, .inl ⟨a, b, by rw [← d, Nat.add_sub_cancel_left]⟩⟩
  · rw [Nat.add_assoc] at d
    exact ⟨Nat.le.intro d, .inr ⟨a, b, by rw [← d, Nat.add_sub_cancel_left]⟩⟩

/-- a read returns everything that is unread, unless the reader still has a non-empty rest of the
previous lap: then it returns that rest and exactly the current lap (`head` bytes) stays unread -/
theorem readLen_spec {s : Sys} {g : Ghost} (h : Inv s g) (i : Nat) (hi : i < s.c.holds.length)
    (hun : (nth s.rds i).mapped = false) :
    (readLen s i = unread s i ∨ (unread s i = readLen s i + s.c.head ∧ 0 < readLen s i)) ∧
    nth s.idx i ≤ s.total := by
  have hrel := (h.rd i hi).1.hold
  have hc := readMapCore_cases s.c (nth s.rds i) i s.total (nth s.idx i) (nth s.c.holds i) hun hrel h.hm
  obtain ⟨hle, hu⟩ := hrel.unread
  refine ⟨?_, hle⟩
  unfold readLen unread
  generalize s.total - nth s.idx i = u at hu ⊢
  have heq : readMapAt s.c (nth s.rds i) i = readMapCore s.c (nth s.rds i) i (nth s.c.holds i) := rfl
  rw [heq]
  rcases hc with ⟨e1, e2, e⟩ | ⟨e1, e2, e⟩ | ⟨e1, e2, e3, e⟩ | ⟨e1, e2, e3, e⟩ | ⟨e1, e2, e3, e⟩ <;>
  (rw [e]; simp only; omega)

theorem runmap_unmaps (s : Sys) (i k : Nat) (hi : i < s.rds.length) :
    (Op.rmap i).wf (step s (.runmap i k)).1 = true := by
  simp only [step, getElem?_eq_some_nth _ _ hi, Op.wf, readUnmap]
  cases hm : (nth s.rds i).mapped <;> simp [hi, hm]

theorem readUnmap_head (c : Chan) (r : Rd) (k : Nat) : (readUnmap c r k).1.head = c.head := by
  unfold readUnmap; split <;> rfl

/-- with `len` read as `readLen_spec` says, of `u` unread bytes at most the current lap `head` is left -/
theorem unread_after_read {u len head : Nat} (h : len = u ∨ (u = len + head ∧ 0 < len)) :
    u - len ≤ head ∧ (u ≤ head → u - len = 0) := by
  omega

/-- One round of `readAll` keeps the state reachable and the reader unmapped, and leaves at most the current
lap unread; if no more than that was unread before, nothing is left. -/
theorem readAll_spec {cap : Nat} {s : Sys} {g : Ghost} (hr : Reachable cap s g) (i : Nat)
    (hwf : (Op.rmap i).wf s = true) :
    ∃ g', Reachable cap (readAll s i) g' ∧ (Op.rmap i).wf (readAll s i) = true ∧
      (readAll s i).c.head = s.c.head ∧ unread (readAll s i) i ≤ s.c.head ∧
      (unread s i ≤ s.c.head → unread (readAll s i) i = 0) := by
  have h := hr.inv
  obtain ⟨hi, hget, hun⟩ := rmap_wf h hwf
  have hlt : i < s.rds.length := by rw [h.l_rds]; exact hi
  obtain ⟨_, h0, hpos, _⟩ := h.read_map_at i hi hun
  -- the state after the read
  have hs1 : (step s (.rmap i)).1 =
      { s with c := (readMapAt s.c (nth s.rds i) i).1, rds := s.rds.set i (readMapAt s.c (nth s.rds i) i).2.1 } := by
    simp only [step, hget]; rw [readMap_registered _ _ i (h.rd i hi).1.id]
  have hlt1 : i < (step s (.rmap i)).1.rds.length := by rw [hs1]; simp only [List.length_set]; exact hlt
  have hr2 := (hr.step (.rmap i) hwf).step (.runmap i s.c.cap) (by simp only [Op.wf, decide_eq_true_eq]; exact hlt1)
  have hfields := readMapCore_fields s.c (nth s.rds i) i (nth s.c.holds i)
  -- the reader advances by the length of the region; `total` and `head` stay
  have hidx : (readAll s i).total = s.total ∧ (readAll s i).c.head = s.c.head ∧
      nth (readAll s i).idx i = nth s.idx i + readLen s i := by
    unfold readAll readLen
    rw [hs1]
    simp only [step, List.getElem?_set, hlt, if_true]
    refine ⟨trivial, (readUnmap_head ..).trans hfields.2.1, ?_⟩
    rw [nth_set_eq _ _ _ (by rw [h.l_idx]; exact hi)]
    show nth s.idx i + _ = _
    by_cases hl : (readMapAt s.c (nth s.rds i) i).2.2.len = 0
    · rw [hl, (h0 hl).2]; simp
    · obtain ⟨hm, _, hlen, _, hcap⟩ := hpos (by omega)
      rw [hm, if_pos rfl, show (readMapAt s.c (nth s.rds i) i).1.high = s.c.high from hfields.1]
      show _ + min (availBytes _ (nth _ i) _) _ = _
      rw [← hlen]
      congr 1; omega
  have hl := (readLen_spec h i hi hun).1
  refine ⟨_, hr2, runmap_unmaps _ i _ hlt1, hidx.2.1, ?_⟩
  unfold unread at hl ⊢
  rw [hidx.1, hidx.2.2, Nat.sub_add_eq]
  exact unread_after_read hl

/-- **C03.5** — with the writer quiescent, a reader that keeps calling map / unmap(all) obtains an empty
region after at most two non-empty ones: the third `read_map` returns nothing, and the reader is drained. -/
theorem reader_drains_in_three_reads {cap : Nat} {s : Sys} {g : Ghost} (hr : Reachable cap s g) (i : Nat)
    (hwf : (Op.rmap i).wf s = true) :
    readLen (readAll (readAll s i) i) i = 0 ∧ unread (readAll (readAll s i) i) i = 0 := by
  obtain ⟨g1, hr1, hwf1, hh1, hu1, _⟩ := readAll_spec hr i hwf
  obtain ⟨g2, hr2, hwf2, _, _, hz⟩ := readAll_spec hr1 i hwf1
  obtain ⟨hi, _, hun⟩ := rmap_wf hr2.inv hwf2
  have a := readLen_spec hr2.inv i hi hun
  have hu2 := hz (hh1 ▸ hu1)
  unfold unread at *
  omega

end AcqVerif.Channel
