import AcqVerif.Filter.Spec
/-!
# The model of `process_data` / `video_filter_thread` against the window specification
-/
namespace AcqVerif.Filter

/-- all frames an acquisition fed to the filter thread, in the order they were read -/
def input (bs : List Batch) : List Frame := bs.flatMap fun b => b.frames.map (·.1)

/-- the hypotheses of the main theorem for one frame: the shape of the acquisition, an integer
sample type, as many samples as the shape has pixels, and the output channel takes the call -/
def Clean (sh : Shape) (fe : Frame × FrameEnv) : Prop :=
  fe.1.shape = sh ∧ fe.1.ty.isInteger = true ∧ fe.1.pix.length = sh.npx ∧ fe.2.ok = true

instance (sh : Shape) (fe : Frame × FrameEnv) : Decidable (Clean sh fe) := by
  unfold Clean; infer_instance

theorem memsetZero_mapRegion (old : Nat → Int) (n : Nat) :
    memsetZero (mapRegion old n) = List.replicate n 0 := by
  simp only [memsetZero, mapRegion, List.map_map]
  apply List.ext_getElem <;> simp

theorem accumulate_integer {fr : Frame} (h : fr.ty.isInteger = true) (x : List Int) :
    accumulate x fr = some (addPix x fr.pix) := by
  unfold accumulate
  cases hty : fr.ty <;> simp_all [SampleType.isInteger]

theorem accumulate_unsupported {fr : Frame} (h : fr.ty.isInteger = false) (x : List Int) :
    accumulate x fr = none := by
  unfold accumulate
  cases hty : fr.ty <;> simp_all [SampleType.isInteger]

theorem accumulate_eq_some {fr : Frame} {x y : List Int} (h : accumulate x fr = some y) :
    y = addPix x fr.pix := by
  cases hty : fr.ty.isInteger
  · rw [accumulate_unsupported hty] at h; cases h
  · rw [accumulate_integer hty] at h; exact (Option.some.inj h).symm

theorem framesLoop_append (k : Nat) (s : St) (a b : List (Frame × FrameEnv)) :
    framesLoop k s (a ++ b) =
      match framesLoop k s a with
      | (s1, true) => framesLoop k s1 b
      | (s1, false) => (s1, false) := by
  induction a generalizing s with
  | nil => simp [framesLoop]
  | cons fe t ih =>
    simp only [List.cons_append, framesLoop]
    split
    · exact ih _
    · rfl

/-- the frame of a complete window is the accumulator over its frames, normalised -/
theorem mkOut_complete {k : Nat} (f : Frame) (rest : List Frame) (h : (f :: rest).length = k) :
    mkOut k (f :: rest) =
      normalize { id := f.id, shape := f.shape, sums := sumWindow f.shape.npx (f :: rest) } k := by
  simp only [mkOut, normalize, rawOut, h, if_true, if_neg (show ¬ k = 0 by rw [← h]; simp)]

/-- the frame of an incomplete window is the accumulator over its frames as it stands -/
theorem mkOut_incomplete {k : Nat} (f : Frame) (rest : List Frame) (h : (f :: rest).length ≠ k) :
    mkOut k (f :: rest) = rawOut { id := f.id, shape := f.shape, sums := sumWindow f.shape.npx (f :: rest) } := by
  simp only [mkOut, rawOut, h, if_false]

/-- the state of the thread when the frames `f :: w` of a window have been summed -/
def pending (f : Frame) (w : List Frame) (out : List Out) : St :=
  { acc := some { id := f.id, shape := f.shape, sums := sumWindow f.shape.npx (f :: w) },
    frameCount := (f :: w).length, out := out }

/-- a clean frame while no accumulator is mapped starts a window -/
theorem onFrame_first {k : Nat} {sh : Shape} {fe : Frame × FrameEnv} (hc : Clean sh fe)
    (s : St) (hs : s.acc = none) : onFrame k s fe.1 fe.2 = (pending fe.1 [] s.out, true) := by
  obtain ⟨_, h2, _, h4⟩ := hc
  simp only [onFrame, hs, h4, if_true, memsetZero_mapRegion, accumulate_integer h2, pending, sumWindow,
    List.foldl, List.length_singleton]

/-- a clean frame while a window is pending joins it; the window is committed if that completes it -/
theorem onFrame_pending {k : Nat} {sh : Shape} {fe : Frame × FrameEnv} (hc : Clean sh fe)
    {f : Frame} (hf : f.shape = sh) {w : List Frame} (hlt : (f :: w).length < k) (out : List Out) :
    onFrame k (pending f w out) fe.1 fe.2 =
      (if (f :: w).length + 1 = k then { acc := none, frameCount := 0, out := out ++ [mkOut k (f :: (w ++ [fe.1]))] }
       else pending f (w ++ [fe.1]) out, true) := by
  obtain ⟨h1, h2, _, h4⟩ := hc
  have hcons : consistentShape f.shape fe.1.shape = true := by simp [consistentShape, hf, h1]
  simp only [onFrame, pending, hcons, accumulate_integer h2, if_true, commit, h4, ← sumWindow_concat, List.cons_append]
  by_cases hlast : (f :: w).length + 1 = k
  · rw [if_pos (Nat.le_of_eq hlast.symm), if_pos hlast, mkOut_complete f (w ++ [fe.1]) (by simpa using hlast), hlast]
  · rw [if_neg (by omega), if_neg hlast]
    simp only [List.length_cons, List.length_append, List.length_nil]

/-- Induction over the frames with the pending window as invariant: the frame loop over clean
frames, followed by `Finalize`, from a state without accumulator and from one in which the frames
`f :: w` of an incomplete window have been summed. -/
theorem framesLoop_pending (k : Nat) (hk : 2 ≤ k) (sh : Shape) (fs : List (Frame × FrameEnv))
    (hfs : ∀ fe ∈ fs, Clean sh fe) :
    (∀ s : St, s.acc = none →
      (framesLoop k s fs).2 = true ∧
      (finalize (framesLoop k s fs).1 true).out = s.out ++ spec k (fs.map (·.1))) ∧
    (∀ (f : Frame) (w : List Frame) (out : List Out), f.shape = sh → (f :: w).length < k →
      (framesLoop k (pending f w out) fs).2 = true ∧
      (finalize (framesLoop k (pending f w out) fs).1 true).out = out ++ spec k (f :: w ++ fs.map (·.1))) := by
  induction fs with
  | nil =>
    refine ⟨fun s hs => ?_, fun f w out _ hlt => ?_⟩
    · simp [framesLoop, finalize, hs, spec, chunks_nil]
    · simp [framesLoop, finalize, pending, commit, spec, chunks_short hlt, mkOut_incomplete _ _ (Nat.ne_of_lt hlt)]
  | cons fe t ih =>
    have hc := hfs fe (by simp)
    obtain ⟨ih0, ih1⟩ := ih fun g hg => hfs g (by simp [hg])
    refine ⟨fun s hs => ?_, fun f w out hf hlt => ?_⟩
    · rw [framesLoop, onFrame_first hc s hs]
      exact ih1 fe.1 [] s.out hc.1 (by simp; omega)
    · rw [framesLoop, onFrame_pending hc hf hlt, show f :: w ++ (fe :: t).map (·.1) = f :: (w ++ [fe.1]) ++ t.map (·.1) by simp]
      by_cases hlast : (f :: w).length + 1 = k
      · rw [if_pos hlast, spec, chunks_append (by omega) _ _ (by simpa using hlast)]
        simpa [spec] using ih0 { acc := none, frameCount := 0, out := out ++ [mkOut k (f :: (w ++ [fe.1]))] } rfl
      · rw [if_neg hlast]
        exact ih1 f (w ++ [fe.1]) out hf (by simp at *; omega)

/-- the frame loop over any number of clean frames, followed by `Finalize` -/
theorem framesLoop_spec (k : Nat) (hk : 2 ≤ k) (sh : Shape) (fs : List (Frame × FrameEnv))
    (hfs : ∀ fe ∈ fs, Clean sh fe) (s : St) (hs : s.acc = none) :
    (framesLoop k s fs).2 = true ∧
    (finalize (framesLoop k s fs).1 true).out = s.out ++ spec k (fs.map (·.1)) :=
  (framesLoop_pending k hk sh fs hfs).1 s hs

/-! ## batches -/

theorem processData_noReset (k : Nat) (s : St) (b : Batch) (hb : b.reset = false) :
    processData k s b = framesLoop k s b.frames := by
  unfold processData
  rcases framesLoop k s b.frames with ⟨s1, ok⟩
  cases ok <;> simp [hb]

/-- without accumulator resets, `process_data` once per batch is the frame loop over all frames:
where the input queue is cut into batches does not matter -/
theorem threadLoop_noReset (k : Nat) (s : St) (bs : List Batch) (hbs : ∀ b ∈ bs, b.reset = false) :
    threadLoop k s bs = framesLoop k s (bs.flatMap (·.frames)) := by
  induction bs generalizing s with
  | nil => simp [threadLoop, framesLoop]
  | cons b t ih =>
    simp only [threadLoop, List.flatMap_cons, framesLoop_append, processData_noReset k s b (hbs b (by simp))]
    rcases framesLoop k s b.frames with ⟨s1, _ | _⟩
    · rfl
    · exact ih s1 (fun b hb => hbs b (by simp [hb]))

theorem input_eq (bs : List Batch) : input bs = (bs.flatMap (·.frames)).map (·.1) := by
  simp only [input, List.map_flatMap]

/-! ## previous contents of the region -/

def FrameEnv.withOld (g : Nat → Int) (e : FrameEnv) : FrameEnv := { e with old := g }

def Batch.withOld (g : Nat → Int) (b : Batch) : Batch :=
  { b with frames := b.frames.map fun fe => (fe.1, fe.2.withOld g) }

theorem onFrame_withOld (k : Nat) (s : St) (fr : Frame) (e : FrameEnv) (g : Nat → Int) :
    onFrame k s fr (e.withOld g) = onFrame k s fr e := by
  simp only [onFrame, FrameEnv.withOld, memsetZero_mapRegion]

theorem framesLoop_withOld (k : Nat) (s : St) (fs : List (Frame × FrameEnv)) (g : Nat → Int) :
    framesLoop k s (fs.map fun fe => (fe.1, fe.2.withOld g)) = framesLoop k s fs := by
  induction fs generalizing s with
  | nil => rfl
  | cons fe t ih =>
    simp only [List.map_cons, framesLoop, onFrame_withOld]
    split
    · exact ih _
    · rfl

theorem processData_withOld (k : Nat) (s : St) (b : Batch) (g : Nat → Int) :
    processData k s (b.withOld g) = processData k s b := by
  unfold processData
  rw [show (b.withOld g).frames = b.frames.map fun fe => (fe.1, fe.2.withOld g) from rfl, framesLoop_withOld]
  rfl

theorem threadLoop_withOld (k : Nat) (s : St) (bs : List Batch) (g : Nat → Int) :
    threadLoop k s (bs.map (Batch.withOld g)) = threadLoop k s bs := by
  induction bs generalizing s with
  | nil => rfl
  | cons b t ih =>
    simp only [List.map_cons, threadLoop, processData_withOld]
    split
    · exact ih _
    · rfl

end AcqVerif.Filter
