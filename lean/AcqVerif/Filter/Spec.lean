import AcqVerif.Filter.Model
/-!
# Specification of frame averaging: windows of `k` consecutive frames

`chunks k l` cuts `l` into consecutive pieces of length `k`; what is left over (fewer than `k`
frames) is the last piece.  `spec k input` is what C10 asks the sink's channel to receive.
The theorems of this file say that the definition is the intended one (explicit index form,
nothing skipped, nothing twice, pointwise sums).
-/
namespace AcqVerif.Filter

/-- consecutive pieces of length `k`, then the non-empty rest -/
def chunks (k : Nat) (l : List α) : List (List α) :=
  if _h : 0 < k ∧ k ≤ l.length then l.take k :: chunks k (l.drop k)
  else match l with
    | [] => []
    | _ :: _ => [l]
termination_by l.length
decreasing_by simp only [List.length_drop]; omega

/-- pointwise sum of the pixel lists of `w`, `n` pixels -/
def sumWindow (n : Nat) (w : List Frame) : List Int :=
  w.foldl (fun s f => addPix s f.pix) (List.replicate n 0)

/-- the frame C10 wants for the window `w`: id/shape of its first frame, type f32, pointwise sums,
divided by `k` when the window is complete -/
def mkOut (k : Nat) : List Frame → Out
  | [] => default
  | f :: rest =>
    { id := f.id, shape := f.shape, ty := .f32, bytesOfFrame := bytesOfAccumulator f.shape,
      sums := sumWindow f.shape.npx (f :: rest), div := if (f :: rest).length = k then k else 1 }

def spec (k : Nat) (input : List Frame) : List Out := (chunks k input).map (mkOut k)

/-! ## `chunks` is the intended partition -/

theorem chunks_nil (k : Nat) : chunks k ([] : List α) = [] := by
  rw [chunks, dif_neg (by simp only [List.length_nil]; omega)]

theorem chunks_step {k : Nat} {l : List α} (hk : 0 < k) (h : k ≤ l.length) :
    chunks k l = l.take k :: chunks k (l.drop k) := by
  rw [chunks]; simp [hk, h]

theorem chunks_short {k : Nat} {l : List α} (h : l.length < k) (hne : l ≠ []) : chunks k l = [l] := by
  fun_cases chunks k l with
  | case1 h' => omega
  | case2 => exact absurd rfl hne
  | case3 => rfl

theorem chunks_append {k : Nat} (hk : 0 < k) (w rest : List α) (hw : w.length = k) :
    chunks k (w ++ rest) = w :: chunks k rest := by
  rw [chunks_step hk (by simp [hw])]
  simp [hw]

/-- no frame is skipped or counted twice: the windows, put end to end, are the input -/
theorem chunks_flatten (k : Nat) (l : List α) : (chunks k l).flatten = l := by
  fun_induction chunks k l with
  | case1 l _ ih => rw [List.flatten_cons, ih, List.take_append_drop]
  | case2 => rfl
  | case3 => simp

/-- every window is non-empty and has at most `k` frames -/
theorem chunks_mem_length {k : Nat} (hk : 0 < k) (l : List α) :
    ∀ c ∈ chunks k l, 0 < c.length ∧ c.length ≤ k := by
  fun_induction chunks k l with
  | case1 l h ih =>
    intro c hc
    rcases List.mem_cons.mp hc with rfl | hc
    · rw [List.length_take]; omega
    · exact ih c hc
  | case2 => nofun
  | case3 a t h =>
    intro c hc
    rw [List.mem_singleton.1 hc]
    simp only [List.length_cons] at h ⊢
    omega

/-- the number of complete windows -/
theorem chunks_complete_count {k : Nat} (hk : 0 < k) (l : List α) :
    ((chunks k l).filter (fun c => c.length = k)).length = l.length / k := by
  fun_induction chunks k l with
  | case1 l h ih =>
    have : (l.take k).length = k := by rw [List.length_take]; omega
    rw [List.filter_cons_of_pos (by simpa using this), List.length_cons, ih, List.length_drop,
      Nat.div_eq_sub_div hk h.2]
  | case2 => simp
  | case3 a t h =>
    have hlt : t.length + 1 < k := by simp only [List.length_cons] at h; omega
    rw [List.filter_cons_of_neg (by simp; omega), List.length_cons, Nat.div_eq_of_lt hlt]
    rfl

/-- at most one window is incomplete, and it is the last one -/
theorem chunks_incomplete_last {k : Nat} (l : List α) :
    ∀ c ∈ (chunks k l).dropLast, c.length = k := by
  fun_induction chunks k l with
  | case1 l h ih =>
    intro c hc
    cases hr : chunks k (l.drop k) with
    | nil => rw [hr] at hc; cases hc
    | cons r rs =>
      rw [hr] at ih
      rw [hr, List.dropLast_cons_cons] at hc
      rcases List.mem_cons.mp hc with rfl | hc
      · rw [List.length_take]; omega
      · exact ih c hc
  | case2 => nofun
  | case3 => nofun

/-- explicit form: window `j` is `input[j*k .. j*k+k)` for `j < n/k`; if `k` does not divide `n`
one more window holds the last `n % k` frames -/
theorem chunks_explicit {k : Nat} (hk : 0 < k) (l : List α) :
    chunks k l = (List.range (l.length / k)).map (fun j => (l.drop (j * k)).take k)
      ++ (if l.length % k = 0 then [] else [l.drop (l.length / k * k)]) := by
  fun_induction chunks k l with
  | case1 l h ih =>
    rw [ih, List.length_drop, Nat.div_eq_sub_div hk h.2, Nat.mod_eq_sub_mod h.2, List.range_succ_eq_map]
    simp only [List.map_cons, List.map_map, Function.comp_def, List.drop_drop, Nat.succ_mul, Nat.zero_mul,
      List.drop_zero, List.cons_append, Nat.add_comm k]
  | case2 => simp
  | case3 a t h =>
    have hlt : (a :: t).length < k := by omega
    rw [Nat.div_eq_of_lt hlt, Nat.mod_eq_of_lt hlt]
    simp

/-! ## `sumWindow` is the pointwise sum -/

theorem addPix_length (x y : List Int) : (addPix x y).length = min x.length y.length := by
  simp [addPix]

theorem addPix_getD {x y : List Int} (h : x.length = y.length) (i : Nat) :
    (addPix x y).getD i 0 = x.getD i 0 + y.getD i 0 := by
  simp only [addPix, List.getD_eq_getElem?_getD, List.getElem?_zipWith]
  by_cases hi : i < x.length
  · rw [List.getElem?_eq_getElem hi, List.getElem?_eq_getElem (h ▸ hi)]
    rfl
  · rw [List.getElem?_eq_none (by omega), List.getElem?_eq_none (by omega)]
    rfl

theorem foldl_addPix (n : Nat) (w : List Frame) (x : List Int) (hx : x.length = n)
    (hw : ∀ f ∈ w, f.pix.length = n) :
    (w.foldl (fun s f => addPix s f.pix) x).length = n ∧
    ∀ i, (w.foldl (fun s f => addPix s f.pix) x).getD i 0 = x.getD i 0 + (w.map fun f => f.pix.getD i 0).sum := by
  induction w generalizing x with
  | nil => simp [hx]
  | cons f t ih =>
    have hf : f.pix.length = n := hw f (by simp)
    have := ih (addPix x f.pix) (by rw [addPix_length, hx, hf, Nat.min_self]) (fun g hg => hw g (by simp [hg]))
    refine ⟨this.1, fun i => ?_⟩
    rw [List.foldl_cons, this.2, addPix_getD (hx.trans hf.symm), List.map_cons, List.sum_cons, Int.add_assoc]

theorem sumWindow_concat (n : Nat) (w : List Frame) (f : Frame) :
    sumWindow n (w ++ [f]) = addPix (sumWindow n w) f.pix := by
  simp only [sumWindow, List.foldl_append, List.foldl_cons, List.foldl_nil]

theorem sumWindow_length (n : Nat) (w : List Frame) (hw : ∀ f ∈ w, f.pix.length = n) :
    (sumWindow n w).length = n :=
  (foldl_addPix n w _ List.length_replicate hw).1

/-- pixel `i` of the sum of a window is the sum of pixel `i` of its frames -/
theorem sumWindow_pointwise (n i : Nat) (w : List Frame) (hw : ∀ f ∈ w, f.pix.length = n) :
    (sumWindow n w).getD i 0 = (w.map fun f => f.pix.getD i 0).sum := by
  have zero : (List.replicate n (0 : Int)).getD i 0 = 0 := by
    rw [List.getD_eq_getElem?_getD, List.getElem?_replicate]
    split <;> rfl
  rw [sumWindow, (foldl_addPix n w _ List.length_replicate hw).2, zero, Int.zero_add]

end AcqVerif.Filter
