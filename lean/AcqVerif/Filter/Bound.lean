import AcqVerif.Filter.Lemmas
/-!
# Every partial sum stays below 2^24 (so that float32 accumulation of integer samples is exact)

For ANY environment (refused maps, failed commits, shape changes, resets, unsupported frames in
between): every slot of a mapped accumulator holds at most `frame_count * M` in absolute value,
`frame_count < k`, and every committed frame at most `k * M`, where `M` bounds the samples.
-/
namespace AcqVerif.Filter

/-- largest absolute value a sample of the type can have -/
def maxAbs : SampleType → Nat
  | .u8 => 255 | .u10 => 1023 | .u12 => 4095 | .u14 => 16383 | .u16 => 65535
  | .i8 => 128 | .i16 => 32768 | .f32 => 0 | .unknown => 0

/-- value range of the integer sample types (what a `uint8_t`/`uint16_t`/`int8_t`/`int16_t` read
can return; u10/u12/u14 are unpacked in 16 bits and the camera keeps them in range) -/
def inRange : SampleType → Int → Prop
  | .u8, p => 0 ≤ p ∧ p ≤ 255
  | .u10, p => 0 ≤ p ∧ p ≤ 1023
  | .u12, p => 0 ≤ p ∧ p ≤ 4095
  | .u14, p => 0 ≤ p ∧ p ≤ 16383
  | .u16, p => 0 ≤ p ∧ p ≤ 65535
  | .i8, p => -128 ≤ p ∧ p ≤ 127
  | .i16, p => -32768 ≤ p ∧ p ≤ 32767
  | .f32, _ => False
  | .unknown, _ => False

theorem inRange_natAbs {ty : SampleType} {p : Int} (h : inRange ty p) : p.natAbs ≤ maxAbs ty := by
  cases ty <;> simp only [inRange, maxAbs] at * <;> omega

/-- largest window size for which `k * maxAbs ty < 2^24` -/
def kmax (ty : SampleType) : Nat := (2 ^ 24 - 1) / maxAbs ty

theorem kmax_ok {ty : SampleType} (hty : ty.isInteger = true) {k : Nat} (hk : k ≤ kmax ty) :
    k * maxAbs ty < 2 ^ 24 := by
  have hpos : 0 < maxAbs ty := by
    cases ty with
    | f32 | unknown => cases hty
    | _ => decide
  have := (Nat.le_div_iff_mul_le hpos).1 hk
  omega

def FrameBounded (M : Nat) (fr : Frame) : Prop := ∀ p ∈ fr.pix, p.natAbs ≤ M

def SumsBounded (B : Nat) (l : List Int) : Prop := ∀ x ∈ l, x.natAbs ≤ B

theorem SumsBounded.mono {A B : Nat} {l : List Int} (h : SumsBounded A l) (hab : A ≤ B) : SumsBounded B l :=
  fun x hx => Nat.le_trans (h x hx) hab

theorem addPix_bounded {A M : Nat} {x : List Int} {fr : Frame} (hx : SumsBounded A x) (hf : FrameBounded M fr) :
    SumsBounded (A + M) (addPix x fr.pix) := by
  intro z hz
  obtain ⟨i, hi, rfl⟩ := List.mem_iff_getElem.mp hz
  rw [addPix, List.length_zipWith, Nat.lt_min] at hi
  simp only [addPix, List.getElem_zipWith]
  exact Nat.le_trans (Int.natAbs_add_le _ _)
    (Nat.add_le_add (hx (x[i]'hi.1) (List.getElem_mem _)) (hf (fr.pix[i]'hi.2) (List.getElem_mem _)))

theorem accumulate_bounded {A M : Nat} {x y : List Int} {fr : Frame} (hx : SumsBounded A x)
    (hf : FrameBounded M fr) (h : accumulate x fr = some y) : SumsBounded (A + M) y := by
  rw [accumulate_eq_some h]
  exact addPix_bounded hx hf

theorem zeros_bounded (old : Nat → Int) (n : Nat) : SumsBounded 0 (memsetZero (mapRegion old n)) := by
  rw [memsetZero_mapRegion]
  intro x hx
  rw [(List.mem_replicate.1 hx).2]
  exact Nat.le_refl 0

structure BoundInv (k M : Nat) (s : St) : Prop where
  accB : ∀ a, s.acc = some a → s.frameCount < k ∧ SumsBounded (s.frameCount * M) a.sums
  outB : ∀ o ∈ s.out, SumsBounded (k * M) o.sums

theorem BoundInv.unmapped {k M c : Nat} {out : List Out} (hout : ∀ o ∈ out, SumsBounded (k * M) o.sums) :
    BoundInv k M { acc := none, frameCount := c, out := out } :=
  ⟨nofun, hout⟩

theorem BoundInv.mapped {k M c : Nat} {a : Acc} {out : List Out} (h2 : c < k)
    (h3 : SumsBounded (c * M) a.sums) (hout : ∀ o ∈ out, SumsBounded (k * M) o.sums) :
    BoundInv k M { acc := some a, frameCount := c, out := out } :=
  ⟨fun _ ha => by cases ha; exact ⟨h2, h3⟩, hout⟩

theorem BoundInv.init (k M : Nat) : BoundInv k M St.init :=
  .unmapped fun _ h => nomatch h

theorem commit_bounded {B : Nat} {out : List Out} {o : Out} (ok : Bool)
    (ho : ∀ o ∈ out, SumsBounded B o.sums) (h : SumsBounded B o.sums) :
    ∀ o' ∈ commit ok out o, SumsBounded B o'.sums := by
  intro o' ho'
  unfold commit at ho'
  split at ho'
  · rcases List.mem_append.mp ho' with h' | h'
    · exact ho o' h'
    · rw [List.mem_singleton.1 h']; exact h
  · exact ho o' ho'

theorem errorPath_inv {k M : Nat} {s : St} (ok : Bool)
    (hout : ∀ o ∈ s.out, SumsBounded (k * M) o.sums)
    (hacc : ∀ a, s.acc = some a → SumsBounded (k * M) a.sums) : BoundInv k M (errorPath s ok) := by
  unfold errorPath
  split
  · next a ha => exact .unmapped (commit_bounded ok hout (hacc a ha))
  · exact .unmapped hout

theorem onFrame_inv {k M : Nat} (hk : 2 ≤ k) {s : St} (hs : BoundInv k M s) {fr : Frame}
    (hf : FrameBounded M fr) (e : FrameEnv) : BoundInv k M (onFrame k s fr e).1 := by
  have zeros := zeros_bounded e.old fr.shape.npx
  unfold onFrame
  split
  · split
    · split
      · next x hx =>
        exact .mapped hk (by simpa using accumulate_bounded zeros hf hx) hs.outB
      · dsimp only
        exact errorPath_inv _ hs.outB fun a ha => by cases ha; exact zeros.mono (Nat.zero_le _)
    · exact hs
  · next a ha =>
    obtain ⟨h2, h3⟩ := hs.accB a ha
    have hfull : SumsBounded (k * M) a.sums := h3.mono (Nat.mul_le_mul_right _ (Nat.le_of_lt h2))
    split
    · split
      · next x hx =>
        have hb : SumsBounded ((s.frameCount + 1) * M) x := Nat.succ_mul _ _ ▸ accumulate_bounded h3 hf hx
        split
        · exact .unmapped (commit_bounded _ hs.outB (hb.mono (Nat.mul_le_mul_right _ h2)))
        · exact .mapped (by omega) hb hs.outB
      · exact errorPath_inv _ hs.outB fun a' ha' => by rw [ha] at ha'; cases ha'; exact hfull
    · exact .unmapped hs.outB

theorem resetAcc_inv {k M : Nat} {s : St} (hs : BoundInv k M s) : BoundInv k M (resetAcc s) := by
  unfold resetAcc
  split
  · exact .unmapped hs.outB
  · exact hs

theorem finalize_inv {k M : Nat} {s : St} (hs : BoundInv k M s) (ok : Bool) : BoundInv k M (finalize s ok) := by
  unfold finalize
  split
  · next a ha =>
    obtain ⟨h2, h3⟩ := hs.accB a ha
    exact .unmapped (commit_bounded ok hs.outB (h3.mono (Nat.mul_le_mul_right _ (Nat.le_of_lt h2))))
  · exact hs

/-- the states the filter thread can be in, between any two frames, under any environment, while
the samples of its input stay within `M` -/
inductive Reach (k M : Nat) : St → Prop where
  | init : Reach k M St.init
  | frame {s : St} {fr : Frame} (e : FrameEnv) : Reach k M s → FrameBounded M fr → Reach k M (onFrame k s fr e).1
  | reset {s : St} : Reach k M s → Reach k M (resetAcc s)
  | fin {s : St} (ok : Bool) : Reach k M s → Reach k M (finalize s ok)

theorem Reach.inv {k M : Nat} (hk : 2 ≤ k) {s : St} (h : Reach k M s) : BoundInv k M s := by
  induction h with
  | init => exact BoundInv.init k M
  | frame e _ hf ih => exact onFrame_inv hk ih hf e
  | reset _ ih => exact resetAcc_inv ih
  | fin ok _ ih => exact finalize_inv ih ok

theorem Reach.framesLoop {k M : Nat} {s : St} (h : Reach k M s) (fs : List (Frame × FrameEnv))
    (hfs : ∀ fe ∈ fs, FrameBounded M fe.1) : Reach k M (framesLoop k s fs).1 := by
  induction fs generalizing s with
  | nil => exact h
  | cons fe t ih =>
    have hstep := Reach.frame fe.2 h (hfs fe (by simp))
    simp only [AcqVerif.Filter.framesLoop]
    generalize onFrame k s fe.1 fe.2 = r at hstep ⊢
    obtain ⟨s1, _ | _⟩ := r
    · exact hstep
    · exact ih hstep (fun g hg => hfs g (by simp [hg]))

theorem Reach.processData {k M : Nat} {s : St} (h : Reach k M s) (b : Batch)
    (hb : ∀ fe ∈ b.frames, FrameBounded M fe.1) : Reach k M (processData k s b).1 := by
  have hl := h.framesLoop b.frames hb
  unfold AcqVerif.Filter.processData
  generalize AcqVerif.Filter.framesLoop k s b.frames = r at hl ⊢
  obtain ⟨s1, _ | _⟩ := r
  · exact hl
  · simp only
    split
    · exact Reach.reset hl
    · exact hl

theorem Reach.threadLoop {k M : Nat} {s : St} (h : Reach k M s) (bs : List Batch)
    (hbs : ∀ b ∈ bs, ∀ fe ∈ b.frames, FrameBounded M fe.1) : Reach k M (threadLoop k s bs).1 := by
  induction bs generalizing s with
  | nil => exact h
  | cons b t ih =>
    have hstep := h.processData b (hbs b (by simp))
    simp only [AcqVerif.Filter.threadLoop]
    generalize AcqVerif.Filter.processData k s b = r at hstep ⊢
    obtain ⟨s1, _ | _⟩ := r
    · exact hstep
    · exact ih hstep (fun b hb => hbs b (by simp [hb]))

end AcqVerif.Filter
