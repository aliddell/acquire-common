import AcqVerif.Select.Regex
/-!
# The derivative matcher decides the inductive language (`matchesRe r s ↔ Matches r s`)

Plus the facts that give "whole name, case-insensitive" a precise meaning:
`Matches` is invariant under ASCII case changes of the subject, and a literal
pattern matches exactly the case variants of the whole string.
-/
namespace AcqVerif.Select

/-! ## what each form of pattern matches -/

theorem matches_empty {u : Bytes} : Matches .empty u ↔ False :=
  ⟨nofun, False.elim⟩

theorem matches_eps {u : Bytes} : Matches .eps u ↔ u = [] :=
  ⟨fun h => by cases h; rfl, fun h => h ▸ .eps⟩

theorem matches_chr {c : Nat} {u : Bytes} : Matches (.chr c) u ↔ ∃ b, u = [b] ∧ chrTest c b = true :=
  ⟨fun h => by cases h with | chr hb => exact ⟨_, rfl, hb⟩, fun ⟨_, hu, hb⟩ => hu ▸ .chr hb⟩

theorem matches_any {u : Bytes} : Matches .any u ↔ ∃ b, u = [b] ∧ anyTest b = true :=
  ⟨fun h => by cases h with | any hb => exact ⟨_, rfl, hb⟩, fun ⟨_, hu, hb⟩ => hu ▸ .any hb⟩

theorem matches_cls {neg : Bool} {items : List Item} {u : Bytes} :
    Matches (.cls neg items) u ↔ ∃ b, u = [b] ∧ clsTest neg items b = true :=
  ⟨fun h => by cases h with | cls hb => exact ⟨_, rfl, hb⟩, fun ⟨_, hu, hb⟩ => hu ▸ .cls hb⟩

theorem matches_cat {a b : Re} {u : Bytes} :
    Matches (.cat a b) u ↔ ∃ s t, u = s ++ t ∧ Matches a s ∧ Matches b t :=
  ⟨fun h => by cases h with | cat h1 h2 => exact ⟨_, _, rfl, h1, h2⟩,
   fun ⟨_, _, hu, h1, h2⟩ => hu ▸ .cat h1 h2⟩

theorem matches_alt {a b : Re} {u : Bytes} : Matches (.alt a b) u ↔ Matches a u ∨ Matches b u :=
  ⟨fun h => by cases h with | altL h => exact .inl h | altR h => exact .inr h,
   fun h => h.elim .altL .altR⟩

/-- a concatenation starts with `x` either inside `a` or, `a` matching the empty string, inside `b` -/
theorem matches_cat_cons {a b : Re} {x : Nat} {s : Bytes} :
    Matches (.cat a b) (x :: s) ↔
      (∃ s1 s2, s = s1 ++ s2 ∧ Matches a (x :: s1) ∧ Matches b s2) ∨ (Matches a [] ∧ Matches b (x :: s)) := by
  rw [matches_cat]
  constructor
  · rintro ⟨u, t, hut, h1, h2⟩
    rcases List.cons_eq_append_iff.1 hut with ⟨rfl, rfl⟩ | ⟨u', rfl, rfl⟩
    · exact .inr ⟨h1, h2⟩
    · exact .inl ⟨u', t, rfl, h1, h2⟩
  · rintro (⟨s1, s2, rfl, h1, h2⟩ | ⟨h1, h2⟩)
    · exact ⟨x :: s1, s2, rfl, h1, h2⟩
    · exact ⟨[], x :: s, rfl, h1, h2⟩

/-- a non-empty match of `a*` starts with a non-empty match of `a` -/
theorem matches_star_cons {a : Re} {x : Nat} {s : Bytes} :
    Matches (.star a) (x :: s) ↔ ∃ s1 s2, s = s1 ++ s2 ∧ Matches a (x :: s1) ∧ Matches (.star a) s2 := by
  constructor
  · intro h
    generalize hr : Re.star a = r at h
    generalize hu : x :: s = u at h
    induction h with
    | starNil => cases hu
    | starCons h1 h2 _ ih2 =>
      cases hr
      rcases List.cons_eq_append_iff.1 hu with ⟨rfl, rfl⟩ | ⟨s1, rfl, rfl⟩
      · exact ih2 rfl rfl
      · exact ⟨s1, _, rfl, h1, h2⟩
    | _ => cases hr
  · rintro ⟨s1, s2, rfl, h1, h2⟩
    exact .starCons h1 h2

/-! ## nullable -/

theorem nullable_iff (r : Re) : nullable r = true ↔ Matches r [] := by
  induction r with
  | empty | eps | chr | any | cls =>
    simp [nullable, matches_empty, matches_eps, matches_chr, matches_any, matches_cls]
  | cat a b iha ihb =>
    simp only [nullable, Bool.and_eq_true, iha, ihb, matches_cat, List.nil_eq, List.append_eq_nil_iff]
    exact ⟨fun ⟨h1, h2⟩ => ⟨[], [], ⟨rfl, rfl⟩, h1, h2⟩, fun ⟨_, _, ⟨rfl, rfl⟩, h⟩ => h⟩
  | alt a b iha ihb => simp [nullable, matches_alt, iha, ihb]
  | star a _ => simp [nullable, Matches.starNil]

/-! ## smart constructors preserve the language -/

theorem mkCat_iff (a b : Re) (u : Bytes) :
    Matches (mkCat a b) u ↔ ∃ s t, u = s ++ t ∧ Matches a s ∧ Matches b t := by
  unfold mkCat
  split
  · simp [matches_empty]
  · simp only [matches_eps]
    exact ⟨fun h => ⟨[], u, rfl, rfl, h⟩, fun ⟨_, _, hu, hs, h⟩ => by subst hs; exact hu ▸ h⟩
  · exact matches_cat

theorem mkAlt_iff (a b : Re) (s : Bytes) : Matches (mkAlt a b) s ↔ Matches a s ∨ Matches b s := by
  unfold mkAlt
  split
  · simp [matches_empty]
  · simp [matches_empty]
  · split
    · next h => simp [h]
    · exact matches_alt

/-! ## derivative -/

/-- the derivative of a one-byte pattern whose test is `t` -/
theorem deriv_atom_iff (t : Nat → Bool) (x : Nat) (s : Bytes) :
    Matches (if t x then .eps else .empty) s ↔ ∃ b, x :: s = [b] ∧ t b = true := by
  cases h : t x
  · simp only [Bool.false_eq_true, if_false, matches_empty, List.cons.injEq, false_iff]
    rintro ⟨b, ⟨rfl, _⟩, hb⟩
    rw [h] at hb; cases hb
  · simp only [if_true, matches_eps, List.cons.injEq]
    exact ⟨fun hs => ⟨x, ⟨rfl, hs⟩, h⟩, fun ⟨_, ⟨_, hs⟩, _⟩ => hs⟩

theorem deriv_iff (x : Nat) (r : Re) : ∀ s : Bytes, Matches (deriv x r) s ↔ Matches r (x :: s) := by
  induction r with
  | empty => intro s; simp only [deriv, matches_empty]
  | eps => intro s; simp only [deriv, matches_empty, matches_eps, List.cons_ne_nil]
  | chr c => intro s; rw [matches_chr]; exact deriv_atom_iff (chrTest c) x s
  | any => intro s; rw [matches_any]; exact deriv_atom_iff anyTest x s
  | cls neg items => intro s; rw [matches_cls]; exact deriv_atom_iff (clsTest neg items) x s
  | cat a b iha ihb =>
    intro s
    simp only [deriv]
    split
    · next hn =>
      simp only [mkAlt_iff, mkCat_iff, iha, ihb, matches_cat_cons, (nullable_iff a).1 hn, true_and]
    · next hn =>
      simp only [mkCat_iff, iha, matches_cat_cons, mt (nullable_iff a).2 hn, false_and, or_false]
  | alt a b iha ihb => intro s; simp only [deriv, mkAlt_iff, iha, ihb, matches_alt]
  | star a iha => intro s; simp only [deriv, mkCat_iff, iha, matches_star_cons]

/-- **The matcher decides the language.** -/
theorem matchesRe_iff (r : Re) (s : Bytes) : matchesRe r s = true ↔ Matches r s := by
  induction s generalizing r with
  | nil => exact nullable_iff r
  | cons x s ih => rw [matchesRe, ih, deriv_iff]

/-! ## derived forms -/

theorem plus_iff (a : Re) (s : Bytes) : Matches a.plus s ↔ ∃ u v, s = u ++ v ∧ Matches a u ∧ Matches (.star a) v :=
  matches_cat

theorem opt_iff (a : Re) (s : Bytes) : Matches a.opt s ↔ Matches a s ∨ s = [] := by
  rw [Re.opt, matches_alt, matches_eps]

/-! ## case folding -/

theorem toLower_idem (b : Nat) : toLower (toLower b) = toLower b := by
  unfold toLower; repeat' split
  all_goals omega

theorem toUpper_toLower (b : Nat) : toUpper (toLower b) = toUpper b := by
  unfold toLower toUpper; repeat' split
  all_goals omega

/-- a one-byte match survives a case change of the subject if the test cannot tell a byte from
its `toLower` -/
theorem atom_fold {t : Nat → Bool} (ht : ∀ b, t (toLower b) = t b) {b : Nat} (hb : t b = true) {u : Bytes}
    (hu : u.map toLower = [b].map toLower) : ∃ b', u = [b'] ∧ t b' = true := by
  obtain ⟨b', rfl, hb'⟩ := List.map_eq_singleton_iff.1 hu
  exact ⟨b', rfl, by rw [← ht, hb', ht, hb]⟩

theorem chrTest_toLower (c b : Nat) : chrTest c (toLower b) = chrTest c b := by
  rw [chrTest, toLower_idem, chrTest]

theorem anyTest_toLower (b : Nat) : anyTest (toLower b) = anyTest b := by
  unfold toLower
  split
  · rw [Bool.eq_iff_iff]
    simp only [anyTest, Bool.and_eq_true, bne_iff_ne, ne_eq]
    omega
  · rfl

/-- the classes `\d \w \s` hold no letter or both of its cases -/
theorem Item.test_toLower (it : Item) (b : Nat) : it.test (toLower b) = it.test b := by
  cases it with
  | single c => simp only [Item.test, toLower_idem]
  | range lo hi => simp only [Item.test, toLower_idem, toUpper_toLower]
  | digit | word | space =>
    unfold toLower
    split
    · rw [Bool.eq_iff_iff]
      simp only [Item.test, isDigit, isAlpha, isSpace, Bool.and_eq_true, Bool.or_eq_true, decide_eq_true_eq, beq_iff_eq]
      omega
    · rfl

theorem clsTest_toLower (neg : Bool) (items : List Item) (b : Nat) :
    clsTest neg items (toLower b) = clsTest neg items b := by
  simp only [clsTest, Item.test_toLower]

/-- matching does not see ASCII case: subjects that agree after `toLower` are matched alike -/
theorem Matches.fold {r : Re} {s : Bytes} (h : Matches r s) :
    ∀ t : Bytes, t.map toLower = s.map toLower → Matches r t := by
  induction h with
  | eps => intro t ht; rw [List.map_eq_nil_iff.1 ht]; exact .eps
  | @chr c b hb => intro t ht; exact matches_chr.2 (atom_fold (chrTest_toLower c) hb ht)
  | any hb => intro t ht; exact matches_any.2 (atom_fold anyTest_toLower hb ht)
  | @cls neg items b hb => intro t ht; exact matches_cls.2 (atom_fold (clsTest_toLower neg items) hb ht)
  | cat _ _ ih1 ih2 =>
    intro t ht
    obtain ⟨t1, t2, rfl, h1, h2⟩ := List.map_eq_append_iff.1 (List.map_append ▸ ht)
    exact .cat (ih1 t1 h1) (ih2 t2 h2)
  | altL _ ih => intro t ht; exact .altL (ih t ht)
  | altR _ ih => intro t ht; exact .altR (ih t ht)
  | starNil => intro t ht; rw [List.map_eq_nil_iff.1 ht]; exact .starNil
  | starCons _ _ ih1 ih2 =>
    intro t ht
    obtain ⟨t1, t2, rfl, h1, h2⟩ := List.map_eq_append_iff.1 (List.map_append ▸ ht)
    exact .starCons (ih1 t1 h1) (ih2 t2 h2)

theorem Matches.fold_iff (r : Re) {s t : Bytes} (h : s.map toLower = t.map toLower) :
    Matches r s ↔ Matches r t :=
  ⟨fun hm => hm.fold t h.symm, fun hm => hm.fold s h⟩

/-- a literal pattern matches exactly the case variants of the *whole* string -/
theorem lit_iff (w s : Bytes) : Matches (Re.lit w) s ↔ s.map toLower = w.map toLower := by
  induction w generalizing s with
  | nil => simp only [Re.lit, matches_eps, List.map_nil, List.map_eq_nil_iff]
  | cons c w ih =>
    simp only [Re.lit, matches_cat, matches_chr, chrTest, beq_iff_eq, ih, List.map_cons, List.map_eq_cons_iff]
    constructor
    · rintro ⟨_, v, rfl, ⟨b, rfl, hb⟩, hv⟩
      exact ⟨b, v, rfl, hb, hv⟩
    · rintro ⟨b, v, rfl, hb, hv⟩
      exact ⟨[b], v, rfl, ⟨b, rfl, hb⟩, hv⟩

end AcqVerif.Select
