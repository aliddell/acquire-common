import AcqVerif.Select.Model
import AcqVerif.Select.RegexLemmas
/-!
# Lemmas about the selection model (layer 1)
-/
namespace AcqVerif.Select

/-! ## `find?` in index form: the order `select` uses is the order `get` exposes

`P` is the reading of the Boolean test `p` as a proposition. -/

theorem find?_eq_some_iff_first {α : Type} {p : α → Bool} {P : α → Prop} (hp : ∀ x, p x = true ↔ P x)
    {l : List α} {a : α} :
    l.find? p = some a ↔
      ∃ i : Nat, l[i]? = some a ∧ P a ∧ ∀ j : Nat, j < i → ∀ x, l[j]? = some x → ¬ P x := by
  simp only [List.find?_eq_some_iff_getElem, List.getElem?_eq_some_iff, ← hp, Bool.not_eq_true', Bool.not_eq_true]
  constructor
  · rintro ⟨ha, i, hi, rfl, hmin⟩
    exact ⟨i, ⟨hi, rfl⟩, ha, fun j hj x ⟨_, hx⟩ => hx ▸ hmin j hj⟩
  · rintro ⟨i, ⟨hi, rfl⟩, ha, hmin⟩
    exact ⟨ha, i, hi, rfl, fun j hj => hmin j hj _ ⟨Nat.lt_trans hj hi, rfl⟩⟩

theorem find?_eq_none_iff_all {α : Type} {p : α → Bool} {P : α → Prop} (hp : ∀ x, p x = true ↔ P x)
    {l : List α} : l.find? p = none ↔ ∀ x, x ∈ l → ¬ P x := by
  simp only [List.find?_eq_none, hp]

/-! ## selection -/

theorem accepts_iff (kind : Nat) (name : Bytes) (re : Bytes → Bool) (e : Entry) :
    accepts kind name re e = true ↔ e.ident.kind = kind ∧ (name = [] ∨ re e.ident.name = true) := by
  simp [accepts, List.isEmpty_iff]

theorem selectCore_ok_iff (m : Manager) (kind : Nat) (name : Bytes) (engine : Engine) (re : Bytes → Bool)
    (hc : engine (cstr name) = some re) {P : Entry → Prop} (hp : ∀ e, accepts kind name re e = true ↔ P e)
    (d : Ident) :
    m.selectCore kind name engine = .ok d ↔
      ∃ (i : Nat) (e : Entry), m.identifiers[i]? = some e ∧ e.ident = d ∧ P e ∧
        ∀ j : Nat, j < i → ∀ x, m.identifiers[j]? = some x → ¬ P x := by
  calc m.selectCore kind name engine = .ok d
      ↔ ∃ e, m.identifiers.find? (accepts kind name re) = some e ∧ e.ident = d := by
        simp only [Manager.selectCore, hc]
        cases m.identifiers.find? (accepts kind name re) <;> simp
    _ ↔ _ := by
        simp only [find?_eq_some_iff_first hp]
        exact ⟨fun ⟨e, ⟨i, h1, h3⟩, h2⟩ => ⟨i, e, h1, h2, h3⟩, fun ⟨i, e, h1, h2, h3⟩ => ⟨e, ⟨i, h1, h3⟩, h2⟩⟩

theorem selectCore_err_iff (m : Manager) (kind : Nat) (name : Bytes) (engine : Engine) (re : Bytes → Bool)
    (hc : engine (cstr name) = some re) {P : Entry → Prop} (hp : ∀ e, accepts kind name re e = true ↔ P e) :
    m.selectCore kind name engine = .err ↔ ∀ e, e ∈ m.identifiers → ¬ P e := by
  simp only [Manager.selectCore, hc, ← find?_eq_none_iff_all hp]
  cases m.identifiers.find? (accepts kind name re) <;> simp

theorem selectCore_bad_regex (m : Manager) (kind : Nat) (name : Bytes) (engine : Engine)
    (hc : engine (cstr name) = none) : m.selectCore kind name engine = .err := by
  unfold Manager.selectCore; rw [hc]

/-- whatever the inputs, `Ok` carries an enumerated identifier of the requested kind -/
theorem selectCore_total (m : Manager) (kind : Nat) (name : Bytes) (engine : Engine) :
    m.selectCore kind name engine = .err ∨
      ∃ e, e ∈ m.identifiers ∧ m.selectCore kind name engine = .ok e.ident ∧ e.ident.kind = kind := by
  unfold Manager.selectCore
  cases engine (cstr name) with
  | none => exact .inl rfl
  | some re =>
    simp only
    cases hf : m.identifiers.find? (accepts kind name re) with
    | none => exact .inl rfl
    | some e =>
      exact .inr ⟨e, List.mem_of_find?_eq_some hf, rfl, ((accepts_iff ..).1 (List.find?_some hf)).1⟩

theorem select_buf (m : Manager) (kind : Nat) (bs : Bytes) (engine : Engine) :
    m.select kind (.buf bs) engine = m.selectCore kind (stdName (.buf bs)) engine := rfl

/-- every entry point returns an error or what `selectCore` returns on some name -/
theorem select_cases (m : Manager) (kind : Nat) (engine : Engine) {Q : Res Ident → Prop} (herr : Q .err)
    (hcore : ∀ name, Q (m.selectCore kind name engine)) :
    (∀ arg, Q (m.select kind arg engine)) ∧ Q (m.selectFirst kind engine) ∧ Q (m.selectDefault kind engine) := by
  refine ⟨fun arg => ?_, hcore _, ?_⟩
  · unfold Manager.select
    split
    · split
      · exact hcore _
      · exact herr
    · exact hcore _
  · unfold Manager.selectDefault
    split
    · exact hcore _
    · split
      · exact hcore _
      · exact herr

/-! ## the NUL rule -/

theorem cstr_of_nulfree {bs : Bytes} (h : ∀ b, b ∈ bs → b ≠ 0) : cstr bs = bs := by
  unfold cstr
  rw [← List.append_nil bs, List.takeWhile_append_of_pos (fun b hb => bne_iff_ne.2 (h b hb))]
  rfl

theorem cstr_append_zero {p rest : Bytes} (h : ∀ b, b ∈ p → b ≠ 0) : cstr (p ++ 0 :: rest) = p := by
  unfold cstr
  rw [List.takeWhile_append_of_pos (fun b hb => bne_iff_ne.2 (h b hb)), List.takeWhile_cons_of_neg (by simp),
    List.append_nil]

theorem cstr_nulfree (bs : Bytes) : ∀ b, b ∈ cstr bs → b ≠ 0 :=
  fun b hb => bne_iff_ne.1 (List.all_eq_true.1 List.all_takeWhile b hb)

theorem cstr_idem (bs : Bytes) : cstr (cstr bs) = cstr bs := cstr_of_nulfree (cstr_nulfree bs)

/-- the last byte is NUL: the `std::string` is cut at the first NUL -/
theorem stdName_of_last_zero {bs : Bytes} (hl : bs.getLast? = some 0) : stdName (.buf bs) = cstr bs := by
  cases bs with
  | nil => cases hl
  | cons b bs => simp only [stdName, List.isEmpty_cons, Bool.false_eq_true, if_false, hl, beq_self_eq_true, if_true]

/-- an embedded NUL with a non-NUL last byte: the `std::string` keeps all bytes (so it is not
"empty") while the regex is built from the prefix -/
theorem stdName_embedded {bs : Bytes} (hne : bs ≠ []) (hl : bs.getLast? ≠ some 0) : stdName (.buf bs) = bs := by
  simp only [stdName, List.isEmpty_iff, hne, if_false, beq_iff_eq, hl]

theorem stdName_of_last_nonzero {bs : Bytes} (hl : bs.getLast? ≠ some 0) : stdName (.buf bs) = bs := by
  cases bs with
  | nil => rfl
  | cons b bs => exact stdName_embedded (List.cons_ne_nil b bs) hl

/-- the regex is always built from the C string of the caller's bytes -/
theorem cstr_stdName_buf (bs : Bytes) : cstr (stdName (.buf bs)) = cstr bs := by
  by_cases hl : bs.getLast? = some 0
  · rw [stdName_of_last_zero hl, cstr_idem]
  · rw [stdName_of_last_nonzero hl]

/-- a NUL-free name is used as it is -/
theorem stdName_nulfree {bs : Bytes} (h : ∀ b, b ∈ bs → b ≠ 0) : stdName (.buf bs) = bs :=
  stdName_of_last_nonzero fun hl => h 0 (List.mem_of_getLast? hl) rfl

/-- NUL padding is stripped: `"trash\0\0"` selects like `"trash"` -/
theorem stdName_padded {p : Bytes} (k : Nat) (h : ∀ b, b ∈ p → b ≠ 0) :
    stdName (.buf (p ++ List.replicate (k + 1) 0)) = p := by
  rw [stdName_of_last_zero (by simp [List.getLast?_append, List.getLast?_replicate]), List.replicate_succ]
  exact cstr_append_zero h

/-! ## enumeration -/

/-- the entry `init` stores for index `i` of driver `d` in slot `driverId` -/
def mkEntry (driverId : Nat) (d : Driver) (i : Nat) : Entry :=
  ⟨(d.describe i).1, { (d.describe i).2 with driverId := driverId }⟩

theorem mem_enumDriver {k : Nat} {d : Driver} {e : Entry} :
    e ∈ enumDriver k d ↔ ∃ i, i < d.count ∧ e = mkEntry k d i := by
  simp only [enumDriver, mkEntry, List.mem_map, List.mem_range, eq_comm]

theorem mem_enumerate {ds : List (Option Driver)} {k : Nat} {e : Entry} :
    e ∈ enumerate k ds ↔ ∃ j d, ds[j]? = some (some d) ∧ e ∈ enumDriver (k + j) d := by
  induction ds generalizing k with
  | nil => simp [enumerate]
  | cons x xs ih =>
    have step : e ∈ enumerate k (x :: xs) ↔ (∃ d, x = some d ∧ e ∈ enumDriver k d) ∨ e ∈ enumerate (k + 1) xs := by
      cases x <;> simp [enumerate]
    rw [step, ih]
    constructor
    · rintro (⟨d, rfl, h⟩ | ⟨j, d, hj, h⟩)
      · exact ⟨0, d, rfl, h⟩
      · exact ⟨j + 1, d, hj, Nat.add_right_comm k 1 j ▸ h⟩
    · rintro ⟨j, d, hj, h⟩
      cases j with
      | zero => exact .inl ⟨d, Option.some.inj hj, h⟩
      | succ j => exact .inr ⟨j, d, hj, Nat.add_right_comm k 1 j ▸ h⟩

/-- a library yields a driver exactly when it is loaded -/
theorem driverLoad_eq_some {l : LibState} {d : Driver} : driverLoad l = some d ↔ l = .loaded d := by
  cases l <;> simp [driverLoad]

theorem getElem?_map_driverLoad {libs : List LibState} {j : Nat} {d : Driver} :
    (libs.map driverLoad)[j]? = some (some d) ↔ libs[j]? = some (.loaded d) := by
  rw [List.getElem?_map]
  cases libs[j]? <;> simp [driverLoad_eq_some]

theorem mem_init_identifiers {libs : List LibState} {e : Entry} :
    e ∈ (Manager.init libs).identifiers ↔
      ∃ slot d i, libs[slot]? = some (.loaded d) ∧ i < d.count ∧ e = mkEntry slot d i := by
  simp only [Manager.init, mem_enumerate, mem_enumDriver, getElem?_map_driverLoad, Nat.zero_add, exists_and_left]

/-! ## get / get_driver -/

theorem get_ok_iff (m : Manager) (i : Nat) (d : Ident) :
    m.get i = .ok d ↔ ∃ e, m.identifiers[i]? = some e ∧ e.ok = true ∧ e.ident = d := by
  unfold Manager.get
  cases m.identifiers[i]? with
  | none => simp
  | some e => cases h : e.ok <;> simp [h]

theorem get_out_of_range (m : Manager) (i : Nat) (h : m.count ≤ i) : m.get i = .err := by
  unfold Manager.get
  rw [List.getElem?_eq_none_iff.2 h]

theorem getDriver_init (libs : List LibState) (ident : Ident) :
    (Manager.init libs).getDriver ident =
      match libs[ident.driverId]? with
      | none => none
      | some l => driverLoad l := by
  unfold Manager.getDriver Manager.init
  simp only [List.getElem?_map]
  cases libs[ident.driverId]? <;> rfl

theorem openIdent_of_getDriver_none {m : Manager} {ident : Ident} (h : m.getDriver ident = none) :
    m.openIdent ident = .err := by
  unfold Manager.openIdent; rw [h]; rfl

/-! ## opening an enumerated identifier -/

/-- a well-behaved driver: every index below `count` can be described (reporting its own index
as `device_id`) and opened -/
def Driver.Faithful (d : Driver) : Prop :=
  ∀ i, i < d.count → (d.describe i).1 = true ∧ (d.describe i).2.deviceId = i ∧ d.open_ i = true

end AcqVerif.Select
