import AcqVerif.Runtime.Inv
/-!
# M1 — where the client is inside `acquire_start` / `acquire_stop`, per stream

`acquire_start` handles the valid streams one after the other (storage start, accept writes, sink thread, filter thread,
camera start, source thread); `acquire_stop` joins source, filter, sink of each valid stream and then flushes its readers.
These functions read off the client's program counter how far it has got for stream `s`.
-/
namespace AcqVerif.Runtime
open AcqVerif.Channel

/-- progress of `acquire_start` for stream `s` (0 = the client is not inside the start of stream `s`) -/
def stage (pc : CPc) (s : Nat) : Nat :=
  match pc with
  | .stoStart x => if x = s then 1 else 0
  | .accLock x true 0 => if x = s then 2 else 0
  | .accNotify x 0 => if x = s then 3 else 0
  | .createSnk x => if x = s then 4 else 0
  | .createFlt x => if x = s then 5 else 0
  | .srcCheck x => if x = s then 6 else 0
  | .camStart x => if x = s then 7 else 0
  | .createSrc x => if x = s then 8 else 0
  | _ => 0

/-- streams with an index ≥ this one have not been touched yet by the `acquire_start` in progress -/
def pendingFrom (pc : CPc) : Option Nat :=
  match pc with
  | .startAt k => some k
  | .stoStart x | .accLock x true 0 | .accNotify x 0 | .createSnk x | .createFlt x | .srcCheck x | .camStart x | .createSrc x => some (x + 1)
  | _ => none

/-- progress of `acquire_stop` for stream `s`: 1 = source joined, 2 = filter joined too, 3 = all three joined -/
def stopStage (pc : CPc) (s : Nat) : Nat :=
  match pc with
  | .joinFlt x => if x = s then 1 else 0
  | .joinSnk x => if x = s then 2 else 0
  | .accLock x true 2 | .accNotify x 2 | .flushAt x _ | .flushRmapLock x _ | .flushRmapNotify x _ | .flushUnmapLock x _ _
  | .flushUnmapNotify x _ _ | .flushAfterRead x _ | .flushed x _ => if x = s then 3 else 0
  | _ => 0

/-- streams with an index below this one have been joined by the `acquire_stop` in progress -/
def stopBelow (pc : CPc) : Option Nat :=
  match pc with
  | .stopAt k => some k
  | .joinSrc x | .joinFlt x | .joinSnk x | .accLock x true 2 | .accNotify x 2 | .flushAt x _ | .flushRmapLock x _ | .flushRmapNotify x _
  | .flushUnmapLock x _ _ | .flushUnmapNotify x _ _ | .flushAfterRead x _ | .flushed x _ => some x
  | _ => none

/-- the tail of `acquire_start`'s error path, after its `acquire_abort` has returned -/
def afterErrStop (pc : CPc) : Bool :=
  match pc with
  | .startErr _ | .errCamStop _ => true
  | _ => false

/-- the client is inside `acquire_abort`'s first loop -/
def inAbort (pc : CPc) : Bool :=
  match pc with
  | .abortAt _ | .accLock _ false 1 | .accNotify _ 1 => true
  | _ => false

/-- program counters outside `acquire_start`, `acquire_abort` and `acquire_stop` -/
def quiet (pc : CPc) : Bool := (pendingFrom pc).isNone && (stopBelow pc).isNone && !inAbort pc && !afterErrStop pc

def AllDone (st : Stream) : Prop := st.src.pc = .done ∧ st.flt.pc = .done ∧ st.snk.pc = .done

/-- the sink's error path and exit -/
def snkLeaving (pc : SnkPc) : Bool :=
  match pc with
  | .error | .errAccLock | .errAccNotify | .errAfterAcc | .errUnmapLock | .errUnmapNotify | .exit | .done => true
  | _ => false

/-- **Threads, flags, devices** — per stream `s`, relative to the client's program counter and `runtime.state` -/
structure TInv (s : Nat) (st : Stream) (cl : Client) (rtstate : DevState) : Prop where
  /-- a stream that is not configured never has workers -/
  invalid : st.valid = false → AllDone st ∧ st.srcRunning = false ∧ st.fltRunning = false ∧ st.snkRunning = false
  /-- a cleared `is_running` flag means the thread has finished (or was never created) -/
  src_flag : st.srcRunning = false → st.src.pc = .done
  flt_flag : st.fltRunning = false → st.flt.pc = .done
  snk_flag : st.snkRunning = false → st.snk.pc = .done
  /-- and a finished thread has cleared its flag, except between the flag's assignment and `thread_create` -/
  src_done : st.src.pc = .done → stage cl.pc s ≠ 8 → st.srcRunning = false
  flt_done : st.flt.pc = .done → stage cl.pc s ≠ 5 → st.fltRunning = false
  snk_done : st.snk.pc = .done → stage cl.pc s ≠ 4 → st.snkRunning = false
  /-- `acquire_start` creates a thread only over one that has finished -/
  start_snk : 1 ≤ stage cl.pc s → stage cl.pc s ≤ 4 → st.snk.pc = .done
  start_flt : 1 ≤ stage cl.pc s → stage cl.pc s ≤ 5 → st.flt.pc = .done
  start_src : 1 ≤ stage cl.pc s → stage cl.pc s ≤ 8 → st.src.pc = .done
  start_valid : 1 ≤ stage cl.pc s → st.valid = true
  /-- the flag is already set when the thread is about to be created -/
  flag_snk : stage cl.pc s = 4 → st.snkRunning = true
  flag_flt : stage cl.pc s = 5 → st.fltRunning = true
  flag_src : stage cl.pc s = 8 → st.srcRunning = true
  pending : ∀ k, pendingFrom cl.pc = some k → k ≤ s → AllDone st
  /-- `acquire_stop` has joined what it has passed -/
  joined_below : ∀ k, stopBelow cl.pc = some k → s < k → AllDone st
  joined_src : 1 ≤ stopStage cl.pc s → st.src.pc = .done
  joined_flt : 2 ≤ stopStage cl.pc s → st.flt.pc = .done
  joined_snk : 3 ≤ stopStage cl.pc s → st.snk.pc = .done
  after_err_stop : afterErrStop cl.pc = true → AllDone st
  /-- outside start/abort/stop the runtime's state field is Running whenever a worker exists -/
  quiet_done : quiet cl.pc = true → rtstate ≠ .running → AllDone st
  /-- `runtime.state` becomes Running only at the end of `acquire_start` -/
  start_not_running : (pendingFrom cl.pc).isSome = true → rtstate ≠ .running
  /-- devices: a Running camera belongs to a source that has not finished; a Running storage to a sink that has not left -/
  cam_running : st.cam.state = .running → st.srcRunning = true
  sto_running : st.sto.state = .running → st.snkRunning = true ∨ stage cl.pc s = 2 ∨ stage cl.pc s = 3
  snk_leaving : snkLeaving st.snk.pc = true → st.sto.state ≠ .running ∨ (1 ≤ stage cl.pc s ∧ stage cl.pc s ≤ 4)

end AcqVerif.Runtime
