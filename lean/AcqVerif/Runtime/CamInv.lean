import AcqVerif.Runtime.TInv.Reach
/-!
# M1 — the camera: no frame call after a failed one, and one driver `stop` per driver `start`
-/
namespace AcqVerif.Runtime
open AcqVerif.Channel

/-- like `MReach.inv`, but every preservation step may also use that the pre-state is reachable
(hence every invariant proved before) -/
theorem MReach.inv' (I : RT → Prop)
    (h0 : ∀ ring cfgs prog, I (initRT ring cfgs prog))
    (hsrc : ∀ s, ∀ a ∈ srcActs s, ∀ rt, MReach rt → a.guard (getS rt s) = true → I rt → I (setS rt s (a.upd (getS rt s))))
    (hflt : ∀ s, ∀ a ∈ fltActs, ∀ rt, MReach rt → a.guard (getS rt s) = true → I rt → I (setS rt s (a.upd (getS rt s))))
    (hsnk : ∀ s, ∀ a ∈ snkActs s, ∀ rt, MReach rt → a.guard (getS rt s) = true → I rt → I (setS rt s (a.upd (getS rt s))))
    (hcl : ∀ a ∈ clientActs, ∀ rt, MReach rt → a.guard rt = true → I rt → I (a.upd rt)) :
    ∀ rt, MReach rt → I rt := by
  intro rt h
  induction h with
  | init ring cfgs prog => exact h0 ring cfgs prog
  | client rt a hr ha hg ih => exact hcl a ha rt hr hg ih
  | src rt s a hr ha hg ih => exact hsrc s a ha rt hr hg ih
  | flt rt s a hr ha hg ih => exact hflt s a ha rt hr hg ih
  | snk rt s a hr ha hg ih => exact hsnk s a ha rt hr hg ih

/-- a per-stream statement (relative to the client) lifted over `setS` -/
theorem all_setS_cl (Q : Nat → Stream → Client → Prop) (rt : RT) (s : Nat) (st : Stream)
    (hst : Q s st rt.client) (h : ∀ s', Q s' (getS rt s') rt.client) :
    ∀ s', Q s' (getS (setS rt s st) s') (setS rt s st).client := by
  intro s'
  have hc : (setS rt s st).client = rt.client := rfl
  rw [hc]
  by_cases e : s = s'
  · subst e
    by_cases hl : s < rt.streams.length
    · rw [getS_setS_same _ _ _ hl]; exact hst
    · have : setS rt s st = rt := by unfold setS; rw [List.set_eq_of_length_le (Nat.le_of_not_lt hl)]
      rw [this]; exact h s
  · rw [getS_setS_other _ _ _ _ e]; exact h s'

structure CamOk (s : Nat) (st : Stream) (cl : Client) : Prop where
  /-- after a failed `get_frame` the camera is on its way to being stopped, or stopped -/
  failed_stopped : st.cam.failed = true → st.src.pc = .failStop ∨ st.cam.state ≠ .running
  frame_not_failed : st.src.pc = .getFrame → st.cam.failed = false
  /-- **no `get_frame` reaches the driver after a failed one** -/
  none_after_failure : st.cam.callsAfterFailure = 0
  fresh_at_create : stage cl.pc s = 8 → st.cam.failed = false
  /-- **driver starts and stops pair up**: one more start than stops exactly while the camera is Running -/
  count : st.cam.drvStarts = st.cam.drvStops + (if st.cam.state = .running then 1 else 0)
  /-- the driver's `start` is called on an Armed camera -/
  armed_at_start : stage cl.pc s = 7 → st.cam.state = .armed
  /-- the driver's `get_frame` and `stop` are called on a Running camera -/
  frame_running : st.src.pc = .getFrame → st.cam.state = .running
  stop_running : st.src.pc = .camStop ∨ st.src.pc = .failStop → st.cam.state = .running
  err_stop_running : cl.pc = .errCamStop s → st.cam.state = .running

theorem CamOk.of_and {s : Nat} {st : Stream} {cl : Client}
    (h : (st.cam.failed = true → st.src.pc = .failStop ∨ st.cam.state ≠ .running) ∧
      (st.src.pc = .getFrame → st.cam.failed = false) ∧
      (st.cam.callsAfterFailure = 0) ∧
      (stage cl.pc s = 8 → st.cam.failed = false) ∧
      (st.cam.drvStarts = st.cam.drvStops + (if st.cam.state = .running then 1 else 0)) ∧
      (stage cl.pc s = 7 → st.cam.state = .armed) ∧
      (st.src.pc = .getFrame → st.cam.state = .running) ∧
      (st.src.pc = .camStop ∨ st.src.pc = .failStop → st.cam.state = .running) ∧
      (cl.pc = .errCamStop s → st.cam.state = .running)) : CamOk s st cl :=
  let ⟨a1,a2,a3,a4,a5,a6,a7,a8,a9⟩ := h
  ⟨a1,a2,a3,a4,a5,a6,a7,a8,a9⟩

theorem CamOk.src (s : Nat) (cl : Client) (rs : DevState) : ∀ a ∈ srcActs s, ∀ st, a.guard st = true → TInv s st cl rs → CamOk s st cl → CamOk s (a.upd st) cl := by
  intro a ha st hg ht h
  obtain ⟨k1, k2, k3, k4, k5, k6, k7, k8, k9⟩ := h
  have t1 := ht.start_src; have t2 := ht.after_err_stop
  unfold srcActs at ha
  each_action ha
  all_goals (simp only [setSrcPc, atWmap, Bool.and_eq_true, Bool.or_eq_true, decide_eq_true_eq, Bool.not_eq_true', ne_eq] at hg ⊢)
  all_goals (apply CamOk.of_and; dsimp only; grind (splits := 16) [AllDone, afterErrStop, stage])

theorem CamOk.flt (s : Nat) (cl : Client) : ∀ a ∈ fltActs, ∀ st, a.guard st = true → CamOk s st cl → CamOk s (a.upd st) cl := by
  intro a ha st _ h
  obtain ⟨k1, k2, k3, k4, k5, k6, k7, k8, k9⟩ := h
  unfold fltActs at ha
  each_action ha <;> exact ⟨k1, k2, k3, k4, k5, k6, k7, k8, k9⟩

theorem CamOk.snk (s : Nat) (cl : Client) : ∀ a ∈ snkActs s, ∀ st, a.guard st = true → CamOk s st cl → CamOk s (a.upd st) cl := by
  intro a ha st hg h
  obtain ⟨k1, k2, k3, k4, k5, k6, k7, k8, k9⟩ := h
  unfold snkActs at ha
  each_action ha
  all_goals (simp only [setSnkPc, notifySink, Bool.and_eq_true, Bool.or_eq_true, decide_eq_true_eq, Bool.not_eq_true', ne_eq] at hg ⊢)
  all_goals (apply CamOk.of_and; dsimp only; grind (splits := 16))

/-- what a client action has to keep, given the earlier invariants -/
def CamOk.Kept (a : Act RT) : Prop :=
  ∀ rt, TInvAll rt → a.guard rt = true → (∀ s, CamOk s (getS rt s) rt.client) → ∀ s, CamOk s (getS (a.upd rt) s) (a.upd rt).client

end AcqVerif.Runtime
