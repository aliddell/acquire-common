import AcqVerif.Runtime.TInv.Workers
/-!
# M1 — the thread invariant holds in every state any schedule reaches, micro-steps included
-/
namespace AcqVerif.Runtime
open AcqVerif.Channel

/-- all that `TInv` reads of the client's program counter, for stream `s` -/
def tview (pc : CPc) (s : Nat) := (stage pc s, pendingFrom pc, stopBelow pc, stopStage pc s, afterErrStop pc, quiet pc)

theorem TInv.of_view {s : Nat} {st : Stream} {cl cl' : Client} {rs : DevState} (h : TInv s st cl rs)
    (e : tview cl'.pc s = tview cl.pc s) : TInv s st cl' rs := by
  simp only [tview, Prod.mk.injEq] at e
  obtain ⟨e1, e2, e3, e4, e5, e6⟩ := e
  cases h; constructor <;> (try simp only [e1, e2, e3, e4, e5, e6]) <;> assumption

set_option maxHeartbeats 600000 in
theorem TInv.client (s0 : Nat) : ∀ a ∈ clientFamilies s0, TInv.Kept a := by
  intro a ha rt hg h s'
  have hal := fun e => alive_false rt e s'
  have hnv := nv_spec rt s0
  have hnn := fun e => nv_none rt s0 e s'
  have hOld := h s'
  obtain ⟨i0, f1, f2, f3, d1, d2, d3, s1, s2, s3, sv, g4, g5, g8, p, jb, j1, j2, j3, ae, q, nr, c1, c2, c3⟩ := h s'
  clear h
  simp only [getS] at *
  unfold clientFamilies clientPerStream clientBase clMon clCfg clStart clErr clStop clAcc clientFlush at ha
  each_action ha
  expose_streams
  all_goals (try (simp only [isOp, atPc, notifySink, setReaderChan, Bool.and_eq_true, Bool.or_eq_true, decide_eq_true_eq,
      Bool.not_eq_true', ne_eq] at hg ⊢))
  all_goals (try (simp at hg; done))
  all_goals (repeat' split)
  all_goals (first | (refine TInv.of_view hOld ?_ <;> simp only [hg, tview, stage, pendingFrom, stopBelow, stopStage, afterErrStop, quiet, inAbort, reduceCtorEq, Option.isNone_none, Option.isNone_some, Option.isSome_none, Option.isSome_some, Bool.and_self, Bool.not_false, Bool.not_true, Bool.and_false, Bool.false_and] <;> done) | skip)
  all_goals (apply TInv.of_and)
  all_goals (try dsimp only)
  all_goals ((try simp only [stage, pendingFrom, stopStage, stopBelow, afterErrStop, inAbort,
      quiet] at ⊢) <;> grind (splits := 24) [AllDone, stage, pendingFrom, stopStage, stopBelow, afterErrStop, inAbort, quiet,
      snkLeaving, DevState.code])

/-- states reached by firing one enabled action of one thread at a time (finer than scheduler steps: a scheduler step
of the model is a burst of such firings of one thread) -/
inductive MReach : RT → Prop
  | init (ring : Nat) (cfgs : List (Option StreamCfg)) (prog : List COp) : MReach (initRT ring cfgs prog)
  | client (rt : RT) (a : Act RT) : MReach rt → a ∈ clientActs → a.guard rt = true → MReach (a.upd rt)
  | src (rt : RT) (s : Nat) (a : Act Stream) : MReach rt → a ∈ srcActs s → a.guard (getS rt s) = true → MReach (setS rt s (a.upd (getS rt s)))
  | flt (rt : RT) (s : Nat) (a : Act Stream) : MReach rt → a ∈ fltActs → a.guard (getS rt s) = true → MReach (setS rt s (a.upd (getS rt s)))
  | snk (rt : RT) (s : Nat) (a : Act Stream) : MReach rt → a ∈ snkActs s → a.guard (getS rt s) = true → MReach (setS rt s (a.upd (getS rt s)))

/-- every state at a scheduler-step boundary is a micro-step state -/
theorem Reach.micro : ∀ rt, Reach rt → MReach rt :=
  Reach.inv MReach (fun ring cfgs prog => .init ring cfgs prog)
    (fun s a ha rt hg h => .src rt s a h ha hg) (fun s a ha rt hg h => .flt rt s a h ha hg)
    (fun s a ha rt hg h => .snk rt s a h ha hg) (fun a ha rt hg h => .client rt a h ha hg)

theorem MReach.inv (I : RT → Prop)
    (h0 : ∀ ring cfgs prog, I (initRT ring cfgs prog))
    (hsrc : ∀ s, ∀ a ∈ srcActs s, ∀ rt, a.guard (getS rt s) = true → I rt → I (setS rt s (a.upd (getS rt s))))
    (hflt : ∀ s, ∀ a ∈ fltActs, ∀ rt, a.guard (getS rt s) = true → I rt → I (setS rt s (a.upd (getS rt s))))
    (hsnk : ∀ s, ∀ a ∈ snkActs s, ∀ rt, a.guard (getS rt s) = true → I rt → I (setS rt s (a.upd (getS rt s))))
    (hcl : ∀ a ∈ clientActs, ∀ rt, a.guard rt = true → I rt → I (a.upd rt)) :
    ∀ rt, MReach rt → I rt := by
  intro rt h
  induction h with
  | init ring cfgs prog => exact h0 ring cfgs prog
  | client rt a _ ha hg ih => exact hcl a ha rt hg ih
  | src rt s a _ ha hg ih => exact hsrc s a ha rt hg ih
  | flt rt s a _ ha hg ih => exact hflt s a ha rt hg ih
  | snk rt s a _ ha hg ih => exact hsnk s a ha rt hg ih

/-- the thread invariant, for all streams -/
def TInvAll (rt : RT) : Prop := ∀ s, TInv s (getS rt s) rt.client rt.state

theorem TInvAll.worker (rt : RT) (s : Nat) (st : Stream) (h : TInvAll rt)
    (hst : TInv s st rt.client rt.state) : TInvAll (setS rt s st) := by
  intro s'
  have hc : (setS rt s st).client = rt.client := rfl
  have hr : (setS rt s st).state = rt.state := rfl
  rw [hc, hr]
  by_cases e : s = s'
  · subst e
    by_cases hl : s < rt.streams.length
    · rw [getS_setS_same _ _ _ hl]; exact hst
    · have : setS rt s st = rt := by unfold setS; rw [List.set_eq_of_length_le (Nat.le_of_not_lt hl)]
      rw [this]; exact h s
  · rw [getS_setS_other _ _ _ _ e]; exact h s'

theorem TInv.init (ring : Nat) (c : Option StreamCfg) (prog : List COp) (s : Nat) :
    TInv s (initStream ring c) { prog := prog } .armed := by
  cases c <;> (constructor <;> simp [initStream, AllDone, stage, pendingFrom, stopStage, stopBelow, afterErrStop, snkLeaving, quiet, inAbort])

theorem TInv.default (prog : List COp) (s : Nat) : TInv s {} { prog := prog } .armed := by
  constructor <;> simp [AllDone, stage, pendingFrom, stopStage, stopBelow, afterErrStop, snkLeaving, quiet, inAbort]

/-- **Threads, flags and devices agree in every state of every schedule** -/
theorem TInvAll.micro : ∀ rt, MReach rt → TInvAll rt := by
  apply MReach.inv TInvAll
  · intro ring cfgs prog s
    rw [getS_initRT]
    split
    · exact TInv.init ring _ prog s
    · exact TInv.default prog s
  · intro s a ha rt hg h; exact TInvAll.worker rt s _ h (TInv.src s rt.client rt.state a ha _ hg (h s))
  · intro s a ha rt hg h; exact TInvAll.worker rt s _ h (TInv.flt s rt.client rt.state a ha _ hg (h s))
  · intro s a ha rt hg h; exact TInvAll.worker rt s _ h (TInv.snk s rt.client rt.state a ha _ hg (h s))
  · exact client_all TInv.Kept TInv.client

theorem TInvAll.reach (rt : RT) (h : Reach rt) : TInvAll rt := TInvAll.micro rt (Reach.micro rt h)

end AcqVerif.Runtime
