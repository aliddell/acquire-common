import AcqVerif.Runtime.TInv.Support
/-! # M1 — the thread invariant `TInv` is kept by every action of the worker threads -/
namespace AcqVerif.Runtime
open AcqVerif.Channel

theorem TInv.src (s : Nat) (cl : Client) (rs : DevState) : ∀ a ∈ srcActs s, ∀ st, a.guard st = true → TInv s st cl rs → TInv s (a.upd st) cl rs := by
  intro a ha st hg h
  obtain ⟨i0, f1, f2, f3, d1, d2, d3, s1, s2, s3, sv, g4, g5, g8, p, jb, j1, j2, j3, ae, q, nr, c1, c2, c3⟩ := h
  unfold srcActs at ha
  each_action ha
  all_goals (simp only [setSrcPc, atWmap, Bool.and_eq_true, Bool.or_eq_true, decide_eq_true_eq, Bool.not_eq_true', bne_iff_ne,
      ne_eq, beq_iff_eq] at hg ⊢)
  all_goals (apply TInv.of_and; dsimp only; grind (splits := 24) [AllDone])

theorem TInv.flt (s : Nat) (cl : Client) (rs : DevState) : ∀ a ∈ fltActs, ∀ st, a.guard st = true → TInv s st cl rs → TInv s (a.upd st) cl rs := by
  intro a ha st hg h
  obtain ⟨i0, f1, f2, f3, d1, d2, d3, s1, s2, s3, sv, g4, g5, g8, p, jb, j1, j2, j3, ae, q, nr, c1, c2, c3⟩ := h
  unfold fltActs at ha
  each_action ha
  all_goals (simp only [setFltPc, Bool.and_eq_true, Bool.or_eq_true, decide_eq_true_eq, Bool.not_eq_true', ne_eq] at hg ⊢)
  all_goals (apply TInv.of_and; dsimp only; grind (splits := 24) [AllDone])

theorem TInv.snk (s : Nat) (cl : Client) (rs : DevState) : ∀ a ∈ snkActs s, ∀ st, a.guard st = true → TInv s st cl rs → TInv s (a.upd st) cl rs := by
  intro a ha st hg h
  obtain ⟨i0, f1, f2, f3, d1, d2, d3, s1, s2, s3, sv, g4, g5, g8, p, jb, j1, j2, j3, ae, q, nr, c1, c2, c3⟩ := h
  unfold snkActs at ha
  each_action ha
  all_goals (simp only [setSnkPc, notifySink, Bool.and_eq_true, Bool.or_eq_true, decide_eq_true_eq, Bool.not_eq_true', ne_eq] at hg ⊢)
  all_goals (apply TInv.of_and; dsimp only; grind (splits := 24) [AllDone, snkLeaving])

end AcqVerif.Runtime
