import AcqVerif.Runtime.Phase
/-! # M1 — facts about `nextValid` / `alive` used by the thread invariant -/
namespace AcqVerif.Runtime
open AcqVerif.Channel

theorem nextValid_some (rt : RT) (k j : Nat) (h : nextValid rt k = some j) :
    k ≤ j ∧ (getS rt j).valid = true ∧ ∀ i, k ≤ i → i < j → (getS rt i).valid = false := by
  unfold nextValid at h
  have hmem := List.mem_of_mem_head? (by rw [h]; rfl : j ∈ (List.filter (fun i => decide (i ≥ k) && (getS rt i).valid) (List.range rt.streams.length)).head?)
  simp only [List.mem_filter, List.mem_range, Bool.and_eq_true, decide_eq_true_eq] at hmem
  refine ⟨hmem.2.1, hmem.2.2, ?_⟩
  intro i hki hij
  cases hv' : (getS rt i).valid with
  | false => rfl
  | true =>
  exfalso
  -- i would come before j in the filtered range
  have hi : i < rt.streams.length := Nat.lt_trans hij hmem.1
  have := List.head?_eq_some_iff.mp h
  obtain ⟨tl, htl⟩ := this
  have hsorted : (List.filter (fun i => decide (i ≥ k) && (getS rt i).valid) (List.range rt.streams.length)).Pairwise (· < ·) :=
    List.Pairwise.filter _ (List.pairwise_lt_range)
  rw [htl] at hsorted
  have himem : i ∈ j :: tl := by
    rw [← htl]; simp only [List.mem_filter, List.mem_range, Bool.and_eq_true, decide_eq_true_eq]; exact ⟨hi, hki, hv'⟩
  rcases List.mem_cons.mp himem with e | e
  · omega
  · have := List.rel_of_pairwise_cons hsorted e; omega

theorem nextValid_none (rt : RT) (k : Nat) (h : nextValid rt k = none) : ∀ i, k ≤ i → (getS rt i).valid = false := by
  intro i hki
  by_cases hi : i < rt.streams.length
  · unfold nextValid at h
    rw [List.head?_eq_none_iff] at h
    cases hv' : (getS rt i).valid with
    | false => rfl
    | true =>
    exfalso
    have : i ∈ List.filter (fun i => decide (i ≥ k) && (getS rt i).valid) (List.range rt.streams.length) := by
      simp only [List.mem_filter, List.mem_range, Bool.and_eq_true, decide_eq_true_eq]; exact ⟨hi, hki, hv'⟩
    rw [h] at this; cases this
  · unfold getS; simp [List.getD, List.getElem?_eq_none (Nat.le_of_not_lt hi)]

theorem nv_spec (rt : RT) (k : Nat) (h : (nextValid rt k).isSome = true) :
    k ≤ nv rt k ∧ (getS rt (nv rt k)).valid = true ∧ ∀ i, k ≤ i → i < nv rt k → (getS rt i).valid = false := by
  obtain ⟨j, hj⟩ := Option.isSome_iff_exists.mp h
  have := nextValid_some rt k j hj
  unfold nv; rw [hj]; exact this

theorem nv_none (rt : RT) (k : Nat) (h : (nextValid rt k).isNone = true) : ∀ i, k ≤ i → (getS rt i).valid = false :=
  nextValid_none rt k (by simpa using h)
theorem alive_false (rt : RT) (h : alive rt = false) (s : Nat) :
    (getS rt s).valid = true → (getS rt s).srcRunning = false ∧ (getS rt s).fltRunning = false ∧ (getS rt s).snkRunning = false := by
  intro hv
  unfold alive at h
  unfold getS at *
  by_cases hl : s < rt.streams.length
  · have hm : rt.streams[s] ∈ rt.streams := List.getElem_mem hl
    have := List.any_eq_false.mp h _ hm
    simp [List.getD, hl] at hv ⊢
    simp_all
  · simp [List.getD, List.getElem?_eq_none (Nat.le_of_not_lt hl)] at hv

theorem TInv.of_and {s : Nat} {st : Stream} {cl : Client} {rtstate : DevState}
    (h : (st.valid = false → AllDone st ∧ st.srcRunning = false ∧ st.fltRunning = false ∧ st.snkRunning = false) ∧
      (st.srcRunning = false → st.src.pc = .done) ∧
      (st.fltRunning = false → st.flt.pc = .done) ∧
      (st.snkRunning = false → st.snk.pc = .done) ∧
      (st.src.pc = .done → stage cl.pc s ≠ 8 → st.srcRunning = false) ∧
      (st.flt.pc = .done → stage cl.pc s ≠ 5 → st.fltRunning = false) ∧
      (st.snk.pc = .done → stage cl.pc s ≠ 4 → st.snkRunning = false) ∧
      (1 ≤ stage cl.pc s → stage cl.pc s ≤ 4 → st.snk.pc = .done) ∧
      (1 ≤ stage cl.pc s → stage cl.pc s ≤ 5 → st.flt.pc = .done) ∧
      (1 ≤ stage cl.pc s → stage cl.pc s ≤ 8 → st.src.pc = .done) ∧
      (1 ≤ stage cl.pc s → st.valid = true) ∧
      (stage cl.pc s = 4 → st.snkRunning = true) ∧
      (stage cl.pc s = 5 → st.fltRunning = true) ∧
      (stage cl.pc s = 8 → st.srcRunning = true) ∧
      (∀ k, pendingFrom cl.pc = some k → k ≤ s → AllDone st) ∧
      (∀ k, stopBelow cl.pc = some k → s < k → AllDone st) ∧
      (1 ≤ stopStage cl.pc s → st.src.pc = .done) ∧
      (2 ≤ stopStage cl.pc s → st.flt.pc = .done) ∧
      (3 ≤ stopStage cl.pc s → st.snk.pc = .done) ∧
      (afterErrStop cl.pc = true → AllDone st) ∧
      (quiet cl.pc = true → rtstate ≠ .running → AllDone st) ∧
      ((pendingFrom cl.pc).isSome = true → rtstate ≠ .running) ∧
      (st.cam.state = .running → st.srcRunning = true) ∧
      (st.sto.state = .running → st.snkRunning = true ∨ stage cl.pc s = 2 ∨ stage cl.pc s = 3) ∧
      (snkLeaving st.snk.pc = true → st.sto.state ≠ .running ∨ (1 ≤ stage cl.pc s ∧ stage cl.pc s ≤ 4))) : TInv s st cl rtstate :=
  let ⟨a1,a2,a3,a4,a5,a6,a7,a8,a9,a10,a11,a12,a13,a14,a15,a16,a17,a18,a19,a20,a21,a22,a23,a24,a25⟩ := h
  ⟨a1,a2,a3,a4,a5,a6,a7,a8,a9,a10,a11,a12,a13,a14,a15,a16,a17,a18,a19,a20,a21,a22,a23,a24,a25⟩

/-- what a client action has to keep -/
def TInv.Kept (a : Act RT) : Prop :=
  ∀ rt, a.guard rt = true → (∀ s, TInv s (getS rt s) rt.client rt.state) →
    ∀ s, TInv s (getS (a.upd rt) s) (a.upd rt).client (a.upd rt).state

end AcqVerif.Runtime
