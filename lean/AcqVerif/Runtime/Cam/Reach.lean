import AcqVerif.Runtime.CamInv
/-! # M1 — `CamOk` is kept by every client action; `CamOk` and `StoOk` hold in every state any schedule reaches (micro-steps included) -/
namespace AcqVerif.Runtime
open AcqVerif.Channel

theorem CamOk.client (s0 : Nat) : ∀ a ∈ clientFamilies s0, CamOk.Kept a := by
  intro a ha rt hT hg h s'
  have t2 := (hT s').after_err_stop
  obtain ⟨k1, k2, k3, k4, k5, k6, k7, k8, k9⟩ := h s'
  clear hT h
  simp only [getS] at *
  unfold clientFamilies clientPerStream clientBase clMon clCfg clStart clErr clStop clAcc clientFlush at ha
  each_action ha
  expose_streams
  all_goals (try (simp only [isOp, atPc, notifySink, setReaderChan, Bool.and_eq_true, Bool.or_eq_true, decide_eq_true_eq,
      Bool.not_eq_true', ne_eq] at hg ⊢))
  all_goals (try (simp at hg; done))
  all_goals (repeat' split)
  all_goals (apply CamOk.of_and)
  all_goals (try dsimp only)
  all_goals ((try simp only [stage] at ⊢) <;> grind (splits := 16) [AllDone, stage, afterErrStop])

theorem CamOk.init (ring : Nat) (c : Option StreamCfg) (prog : List COp) (s : Nat) : CamOk s (initStream ring c) { prog := prog } := by
  cases c <;> (constructor <;> simp [initStream, stage])

theorem CamOk.default (prog : List COp) (s : Nat) : CamOk s {} { prog := prog } := by
  constructor <;> simp [stage]

theorem CamOk.micro : ∀ rt, MReach rt → ∀ s, CamOk s (getS rt s) rt.client := by
  apply MReach.inv' (fun rt => ∀ s, CamOk s (getS rt s) rt.client)
  · intro ring cfgs prog s
    rw [getS_initRT]
    split
    · exact CamOk.init ring _ prog s
    · exact CamOk.default prog s
  · intro s a ha rt hr hg h
    exact all_setS_cl CamOk rt s _ (CamOk.src s rt.client rt.state a ha _ hg (TInvAll.micro rt hr s) (h s)) h
  · intro s a ha rt _ hg h; exact all_setS_cl CamOk rt s _ (CamOk.flt s rt.client a ha _ hg (h s)) h
  · intro s a ha rt _ hg h; exact all_setS_cl CamOk rt s _ (CamOk.snk s rt.client a ha _ hg (h s)) h
  · intro a ha rt hr hg h
    exact client_all CamOk.Kept CamOk.client a ha rt (TInvAll.micro rt hr) hg h

theorem StoOk.micro : ∀ rt, MReach rt → ∀ s, StoOk (getS rt s) := by
  apply MReach.inv (fun rt => ∀ s, StoOk (getS rt s))
  · intro ring cfgs prog s
    rw [getS_initRT]; split
    · rename_i h; cases cfgs[s] <;> exact ⟨by simp [initStream], by simp [initStream], by simp [initStream]⟩
    · exact ⟨by simp, by simp, by simp⟩
  · intro s a ha rt hg h; exact all_setS StoOk rt s _ (StoOk.src s a ha _ hg (h s)) h
  · intro s a ha rt hg h; exact all_setS StoOk rt s _ (StoOk.flt a ha _ hg (h s)) h
  · intro s a ha rt hg h; exact all_setS StoOk rt s _ (StoOk.snk s a ha _ hg (h s)) h
  · exact StoOk.client

end AcqVerif.Runtime
