import AcqVerif.Runtime.Data.WakeDef
/-! # M1 — `DWake` is kept by every client action, and holds in every state any schedule reaches -/
namespace AcqVerif.Runtime
open AcqVerif.Channel

theorem DWake.of_view {s : Nat} {st : Stream} {cl cl' : Client} (h : DWake s st cl)
    (e1 : cl'.pc = .accNotify s 1 ↔ cl.pc = .accNotify s 1) : DWake s st cl' := by
  cases h; constructor <;> (try simp only [e1]) <;> assumption

set_option maxHeartbeats 400000 in
theorem DWake.client (s0 : Nat) : ∀ a ∈ clientFamilies s0, DWake.Kept a := by
  intro a ha rt hT hU hg h s' _ hm'
  have hm := (client_keeps ha rt hg s').2 hm'
  have tS := (hT s').start_src; have tK := (hT s').start_snk; have tJ := (hT s').joined_snk; have tV := (hT s').start_valid
  have tJs := (hT s').joined_src; have tP := (hT s').pending
  have hs8 := stage_le rt.client.pc s'
  have hch := clHolds0_stop rt.client.pc s'
  have hvr := valid_in_range rt s'
  have hnvv := nv_spec rt s0
  obtain ⟨k1, k2, k3, k4, k5, k6, k7, k8, k9, k10, k11, k12, k13, k14⟩ := hU s' (Here.intro _) hm
  have hOld := h s' (Here.intro _) hm
  have ⟨w1, w2⟩ := hOld
  have hn1 := nrd_pos k3
  have hrm0 := cv_rmap0 k1 hn1
  have hru0 := fun k => cv_runmap0 k1 k hn1
  have hrm1 := cv_rmap1 k1
  have hru1 := fun k => cv_runmap1 k1 k
  have hac := fun b => cv_accept k1 b
  have hj := cv_join1 k1
  have hbad := fun k => runmap1_bad k1 k
  clear hT hU h
  simp only [getS, snkHold, srcHold, clHolds0, clFlush1, clFlush1Free, AllDone] at *
  unfold clientFamilies clientPerStream clientBase clMon clCfg clStart clErr clStop clAcc clientFlush at ha
  each_action ha
  expose_streams
  all_goals (try (simp only [isOp, atPc, notifySink, setReaderChan, readerChan, readerIdx, flushRead, mapRead, mapMoved, chanOp,
      lockOk, sinkLockFree, monMapped, outLen_eq, getS, getD0_eq, getD_idx0, getD1_eq, getD_idx1, getD_stopAllFilters, markFlt,
      Bool.and_eq_true, Bool.or_eq_true, decide_eq_true_eq, Bool.not_eq_true', ne_eq] at hg ⊢))
  all_goals (try (simp at hg; done))
  all_goals (repeat' split)
  all_goals (first | (refine DWake.of_view hOld ?_ <;> simp only [hg, reduceCtorEq, iff_self] <;> done) | skip)
  all_goals (apply DWake.of_and)
  all_goals (try dsimp only)
  all_goals ((try simp only [snkHold, srcHold, clHolds0, clFlush1, clFlush1Free, AllDone, stage,
      stopStage] at ⊢) <;> grind (splits := 16) [stage, stopStage, afterErrStop])

/-- **no lost wake-up at pipeline level, in every state of every schedule** -/
theorem DWake.micro : ∀ rt, MReach rt → ∀ s, DWakeP s (getS rt s) rt.client := by
  apply MReach.inv' (fun rt => ∀ s, DWakeP s (getS rt s) rt.client)
  · intro ring cfgs prog s _ _
    rw [getS_initRT]
    split
    · rename_i hlt; cases cfgs[s] <;> exact ⟨by simp [initStream], by simp [initStream]⟩
    · exact ⟨by simp, by simp⟩
  · intro s a ha rt hr hg h
    refine all_setS_cl DWakeP rt s _ ?_ h
    intro he hm
    exact DWake.src s rt.client a ha _ hg (DUse.micro rt hr s (Here.intro _) hm) (h s (Here.intro _) hm)
  · intro s a ha rt _ hg h
    refine all_setS_cl DWakeP rt s _ ?_ h
    intro he hm
    exact DWake.flt s rt.client a ha _ hg (h s (Here.intro _) hm)
  · intro s a ha rt hr hg h
    refine all_setS_cl DWakeP rt s _ ?_ h
    intro he hm
    exact DWake.snk s rt.client rt.state a ha _ hg (TInvAll.micro rt hr s) (DUse.micro rt hr s (Here.intro _) hm) (h s (Here.intro _) hm)
  · intro a ha rt hr hg h
    exact client_all DWake.Kept DWake.client a ha rt (TInvAll.micro rt hr) (DUse.micro rt hr) hg h

end AcqVerif.Runtime
