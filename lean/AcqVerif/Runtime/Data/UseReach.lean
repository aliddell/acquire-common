import AcqVerif.Runtime.Data.UseWorkers
/-! # M1 — `DUse` is kept by every client action: the channel is used within its rules in every state any schedule reaches -/
namespace AcqVerif.Runtime
open AcqVerif.Channel

theorem DUse.of_view {s : Nat} {st : Stream} {cl cl' : Client} (h : DUse s st cl)
    (e1 : stage cl'.pc s = stage cl.pc s) (e2 : clHolds0 cl'.pc s = clHolds0 cl.pc s) (e3 : clFlush1Free cl'.pc s = clFlush1Free cl.pc s) (e4 : clFlush1 cl'.pc s = clFlush1 cl.pc s) (e5 : cl'.flushLen = cl.flushLen) (e6 : cl'.pc = .mapLock s ↔ cl.pc = .mapLock s) : DUse s st cl' := by
  cases h; constructor <;> (try simp only [e1, e2, e3, e4, e5, e6]) <;> assumption

set_option maxHeartbeats 800000 in
theorem DUse.client (s0 : Nat) : ∀ a ∈ clientFamilies s0, DUse.Kept a := by
  intro a ha rt hT hg h s' _ hm'
  have hm := (client_keeps ha rt hg s').2 hm'
  have tS := (hT s').start_src; have tJs := (hT s').joined_src; have tK := (hT s').start_snk; have tJ := (hT s').joined_snk; have tE := (hT s').after_err_stop; have tV := (hT s').start_valid
  have hs8 := stage_le rt.client.pc s'
  have hch := clHolds0_stop rt.client.pc s'
  have hdef : ¬ s' < rt.streams.length → rt.streams.getD s' {} = {} := by
    intro hl; simp [List.getD, List.getElem?_eq_none (Nat.le_of_not_lt hl)]
  have hm0def : (cv ({} : Stream).sinkCh).m0 = false := rfl
  have hOld := h s' (Here.intro _) hm
  have ⟨k1, k2, k3, k4, k5, k6, k7, k8, k9, k10, k11, k12, k13, k14⟩ := hOld
  have hn1 := nrd_pos k3
  have hrm0 := cv_rmap0 k1 hn1
  have hru0 := fun k => cv_runmap0 k1 k hn1
  have hrm1 := cv_rmap1 k1
  have hru1 := fun k => cv_runmap1 k1 k
  have hac := fun b => cv_accept k1 b
  have hj := cv_join1 k1
  have hml := mapped_pos0 k1 hn1
  have hbad := fun k => runmap1_bad k1 k
  have hI1 := fun a b (i : Nat) => idle_rmap (k14 a b) i; have hI2 := fun a b (i k : Nat) => idle_runmap (k14 a b) i k
  have hI3 := fun a b => idle_refuse (k14 a b); have hI4 := fun a b => idle_join (k14 a b)
  have hfr := filt_rmap k2
  have hfu := filt_runmap k2
  clear hT h
  simp only [getS, snkHold, srcHold, clHolds0, clFlush1, clFlush1Free, AllDone] at *
  unfold clientFamilies clientPerStream clientBase clMon clCfg clStart clErr clStop clAcc clientFlush at ha
  each_action ha
  expose_streams
  all_goals (try (simp only [isOp, atPc, notifySink, setReaderChan, readerChan, readerIdx, flushRead, mapRead, mapMoved, chanOp,
      lockOk, monMapped, outLen_eq, getS, getD0_eq, getD_idx0, getD1_eq, getD_idx1, Bool.and_eq_true, Bool.or_eq_true,
      decide_eq_true_eq, Bool.not_eq_true', ne_eq] at hg ⊢))
  all_goals (try (simp at hg; done))
  all_goals (repeat' split)
  all_goals (first | (refine DUse.of_view hOld ?_ ?_ ?_ ?_ ?_ ?_ <;> simp only [hg, stage, clHolds0, clFlush1, clFlush1Free,
      reduceCtorEq, decide_false, Bool.or_false, iff_self] <;> done) | skip)
  all_goals (apply DUse.of_and)
  all_goals (try dsimp only)
  all_goals ((try simp only [snkHold, srcHold, clHolds0, clFlush1, clFlush1Free, AllDone, stage,
      stopStage] at ⊢) <;> grind (splits := 16) [stage, stopStage, afterErrStop])

theorem fresh_ok (ring : Nat) : Ok (freshChan ring) :=
  ⟨ring, _, (Reachable.init ring).step .join (by simp [Op.wf, Sys.init])⟩

theorem DUse.init (ring : Nat) (c : Option StreamCfg) (prog : List COp) (s : Nat) : DUse s (initStream ring c) { prog := prog } := by
  have hc : (freshChan ring).c.cap = ring := fresh_cap ring
  cases c <;> (constructor <;> simp [initStream, stage, srcHold, snkHold, clHolds0, clFlush1, clFlush1Free, fresh_ok, hc])
  all_goals (simp [cv, freshChan, step, Sys.init, readMap, readerInit, readMapAt, readMapCore, nth, C02.regionLen])

theorem DUse.default (prog : List COp) (s : Nat) : DUse s {} { prog := prog } := by
  have e : ({} : Stream).sinkCh = freshChan 4096 := rfl
  have e2 : ({} : Stream).filtCh = freshChan 4096 := rfl
  have hc : (freshChan 4096).c.cap = 4096 := fresh_cap 4096
  constructor
  case ok => exact fresh_ok 4096
  all_goals (simp [stage, srcHold, snkHold, clHolds0, clFlush1, clFlush1Free, e, e2, hc])
  all_goals (simp [cv, freshChan, step, Sys.init, readMap, readerInit, readMapAt, readMapCore, nth, C02.regionLen])

/-- the premises of `DUseP` are about things no action changes -/
theorem DUseP.worker (s : Nat) (cl : Client) (st st' : Stream) (he : st'.cam.emptyEvery = st.cam.emptyEvery)
    (h : DUse s st cl → DUse s st' cl) (hp : DUseP s st cl) : DUseP s st' cl := by
  intro _ c
  exact h (hp (Here.intro _) c)

theorem src_keeps_script (s : Nat) : ∀ a ∈ srcActs s, ∀ st, (a.upd st).cam.failAt = st.cam.failAt ∧ (a.upd st).cam.emptyEvery = st.cam.emptyEvery := by
  intro a ha st; unfold srcActs at ha; each_action ha <;> exact ⟨rfl, rfl⟩
theorem flt_keeps_script : ∀ a ∈ fltActs, ∀ st, (a.upd st).cam.failAt = st.cam.failAt ∧ (a.upd st).cam.emptyEvery = st.cam.emptyEvery := by
  intro a ha st; unfold fltActs at ha; each_action ha <;> exact ⟨rfl, rfl⟩
theorem snk_keeps_script (s : Nat) : ∀ a ∈ snkActs s, ∀ st, (a.upd st).cam.failAt = st.cam.failAt ∧ (a.upd st).cam.emptyEvery = st.cam.emptyEvery := by
  intro a ha st; unfold snkActs at ha; each_action ha <;> exact ⟨rfl, rfl⟩

/-- **`sink.in` is used within the channel's rules, and the threads' bookkeeping agrees with it, in every state of every
schedule** (scripted camera faults and empty frames included; for clients that keep the monitoring API's usage rule) -/
theorem DUse.micro : ∀ rt, MReach rt → ∀ s, DUseP s (getS rt s) rt.client := by
  apply MReach.inv' (fun rt => ∀ s, DUseP s (getS rt s) rt.client)
  · intro ring cfgs prog s _ _
    rw [getS_initRT]
    split
    · exact DUse.init ring _ prog s
    · exact DUse.default prog s
  · intro s a ha rt hr hg h
    refine all_setS_cl DUseP rt s _ ?_ h
    exact DUseP.worker s rt.client _ _ (src_keeps_script s a ha _).2
      (fun hd => DUse.src s rt.client rt.state a ha _ hg (TInvAll.micro rt hr s) hd) (h s)
  · intro s a ha rt _ hg h
    refine all_setS_cl DUseP rt s _ ?_ h
    exact DUseP.worker s rt.client _ _ (flt_keeps_script a ha _).2
      (fun hd => DUse.flt s rt.client a ha _ hg hd) (h s)
  · intro s a ha rt hr hg h
    refine all_setS_cl DUseP rt s _ ?_ h
    exact DUseP.worker s rt.client _ _ (snk_keeps_script s a ha _).2
      (fun hd => DUse.snk s rt.client rt.state a ha _ hg (TInvAll.micro rt hr s) hd) (h s)
  · intro a ha rt hr hg h
    exact client_all DUse.Kept DUse.client a ha rt (TInvAll.micro rt hr) hg h

end AcqVerif.Runtime
