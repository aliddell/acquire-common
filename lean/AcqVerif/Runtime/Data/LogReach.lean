import AcqVerif.Runtime.Data.LogWorkers
/-! # M1 — `DLog` is kept by every client action, and holds in every state any schedule reaches -/
namespace AcqVerif.Runtime
open AcqVerif.Channel

theorem DLog.of_view {s : Nat} {st : Stream} {cl cl' : Client} (h : DLog s st cl)
    (e1 : stage cl'.pc s = stage cl.pc s) : DLog s st cl' := by
  cases h; constructor <;> (try simp only [e1]) <;> assumption

set_option maxHeartbeats 400000 in
theorem DLog.client (s0 : Nat) : ∀ a ∈ clientFamilies s0, DLog.Kept a := by
  intro a ha rt hT hU hg h s' _ hm'
  have hm := (client_keeps ha rt hg s').2 hm'
  have tS := (hT s').start_src; have tK := (hT s').start_snk; have tJ := (hT s').joined_snk; have tE := (hT s').after_err_stop; have tV := (hT s').start_valid
  have hs8 := stage_le rt.client.pc s'
  have hch := clHolds0_stop rt.client.pc s'
  have hdef : ¬ s' < rt.streams.length → rt.streams.getD s' {} = {} := by
    intro hl; simp [List.getD, List.getElem?_eq_none (Nat.le_of_not_lt hl)]
  obtain ⟨k1, k2, k3, k4, k5, k6, k7, k8, k9, k10, k11, k12, k13, k14⟩ := hU s' (Here.intro _) hm
  have hOld := h s' (Here.intro _) hm
  have ⟨d1, d2, d3, d4⟩ := hOld
  have hn1 := nrd_pos k3
  have hrm0 := cv_rmap0 k1 hn1
  have hru0 := fun k => cv_runmap0 k1 k hn1
  have hrm1 := cv_rmap1 k1
  have hru1 := fun k => cv_runmap1 k1 k
  have hac := fun b => cv_accept k1 b
  have hj := cv_join1 k1
  have hle := cv_i0_le k1 hn1
  have hbad := fun k => runmap1_bad k1 k
  clear hT hU h
  simp only [getS, logpos, snkHold, srcHold, clHolds0, clFlush1, clFlush1Free, AllDone] at *
  unfold clientFamilies clientPerStream clientBase clMon clCfg clStart clErr clStop clAcc clientFlush at ha
  each_action ha
  expose_streams
  all_goals (try (simp only [isOp, atPc, notifySink, setReaderChan, readerChan, readerIdx, flushRead, mapRead, mapMoved, chanOp,
      lockOk, monMapped, outLen_eq, getS, getD0_eq, getD_idx0, getD1_eq, getD_idx1, Bool.and_eq_true, Bool.or_eq_true,
      decide_eq_true_eq, Bool.not_eq_true', ne_eq] at hg ⊢))
  all_goals (try (simp at hg; done))
  all_goals (repeat' split)
  all_goals (first | (refine DLog.of_view hOld ?_ <;> simp only [hg, stage] <;> done) | skip)
  all_goals (apply DLog.of_and)
  all_goals (try dsimp only)
  all_goals ((try simp only [logpos, snkHold, srcHold, clHolds0, clFlush1, clFlush1Free, AllDone, stage,
      stopStage] at ⊢) <;> grind (splits := 16) [stage, stopStage, afterErrStop, framesIn_zero])

theorem DLog.init (ring : Nat) (c : Option StreamCfg) (prog : List COp) (s : Nat) : DLog s (initStream ring c) { prog := prog } := by
  cases c <;> (constructor <;> simp [initStream, stage, logpos, FramesOk.nil, framesIn_nil])
  all_goals (simp [cv, freshChan, step, Sys.init, readMap, readerInit, readMapAt, readMapCore, nth])

theorem DLog.default (prog : List COp) (s : Nat) : DLog s {} { prog := prog } := by
  constructor <;> simp [stage, logpos, FramesOk.nil, framesIn_nil]
  all_goals (simp [cv, step, Sys.init, readMap, readerInit, readMapAt, readMapCore, nth])

theorem DLogP.worker (s : Nat) (cl : Client) (st st' : Stream)
    (h : cl.misused = false → DLog s st cl → DLog s st' cl) (hp : DLogP s st cl) : DLogP s st' cl := by
  intro _ c
  exact h c (hp (Here.intro _) c)

/-- **the storage log is a run of consecutive committed frames, in every state of every schedule** -/
theorem DLog.micro : ∀ rt, MReach rt → ∀ s, DLogP s (getS rt s) rt.client := by
  apply MReach.inv' (fun rt => ∀ s, DLogP s (getS rt s) rt.client)
  · intro ring cfgs prog s _ _
    rw [getS_initRT]
    split
    · exact DLog.init ring _ prog s
    · exact DLog.default prog s
  · intro s a ha rt hr hg h
    refine all_setS_cl DLogP rt s _ ?_ h
    exact DLogP.worker s rt.client _ _
      (fun hm hd => DLog.src s rt.client a ha _ hg (DUse.micro rt hr s (Here.intro _) hm) hd) (h s)
  · intro s a ha rt _ hg h
    refine all_setS_cl DLogP rt s _ ?_ h
    exact DLogP.worker s rt.client _ _
      (fun _ hd => DLog.flt s rt.client a ha _ hg hd) (h s)
  · intro s a ha rt hr hg h
    refine all_setS_cl DLogP rt s _ ?_ h
    exact DLogP.worker s rt.client _ _
      (fun hm hd => DLog.snk s rt.client rt.state a ha _ hg (TInvAll.micro rt hr s) (DUse.micro rt hr s (Here.intro _) hm) hd) (h s)
  · intro a ha rt hr hg h
    exact client_all DLog.Kept DLog.client a ha rt (TInvAll.micro rt hr) (DUse.micro rt hr) hg h

end AcqVerif.Runtime
