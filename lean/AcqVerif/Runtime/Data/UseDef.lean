import AcqVerif.Runtime.Cam.Reach
import AcqVerif.Channel.View
/-!
# M1 — the data path: how the threads use the sink's channel

`DUse` says, per stream and relative to the client's program counter, that the channel `sink.in` is only ever used
within the rules of `channel.c`'s API (so that everything C01/C02 prove about it applies in every reachable state of
the runtime), and ties the threads' program counters to the channel's view: a write is pending exactly while the
source holds a region; the sink's reader is mapped only while the sink (or the client's flush) holds a region, and the
sink's bookkeeping (`idx`, `len`) is the reader's stream position and region length.

It is stated for clients that keep the monitoring API's usage rule. Cameras that hand out empty frames are covered: the source
aborts that write and then unmaps, and an unmap with nothing in flight is within the channel's rules and changes nothing (`Idle`).
Scripted camera failures are covered: a failing `camera_get_frame` leaves the write region mapped for good, and the next
acquisition's first `channel_write_map` replaces it, which is within the rules (`Op.wf`).
-/
namespace AcqVerif.Runtime
open AcqVerif.Channel

theorem stage_le (pc : CPc) (s : Nat) : stage pc s ≤ 8 := by
  unfold stage; split <;> (try split) <;> omega

theorem outLen_eq (o : Out) : outLen o = sliceLen o := by cases o <;> rfl
theorem isWok_iff (o : Out) : isWok o = true ↔ ∃ b, o = .wok b := by cases o <;> simp [isWok]

/-- the source holds a write region -/
def srcHold (pc : SrcPc) : Bool :=
  match pc with
  | .afterMap | .getFrame | .abortLock | .commitLock => true
  | _ => false

/-- the sink is between its `channel_read_map` and the matching `channel_read_unmap` -/
def snkHold (pc : SnkPc) : Bool :=
  match pc with
  | .rmapNotify | .afterMap | .append | .runmapLock | .error | .errAccLock | .errAccNotify | .errAfterAcc | .errUnmapLock => true
  | _ => false

/-- the client's `flush_reader` of the sink's reader of stream `s` is between its map and its unmap -/
def clHolds0 (pc : CPc) (s : Nat) : Bool :=
  pc = .flushRmapNotify s 0 || pc = .flushAfterRead s 0 || pc = .flushUnmapLock s 0 false

/-- the client's `flush_reader` of the monitor reader of stream `s`, past the "is it registered" test -/
def clFlush1 (pc : CPc) (s : Nat) : Bool :=
  pc = .flushRmapLock s 1 || pc = .flushRmapNotify s 1 || pc = .flushAfterRead s 1 || pc = .flushUnmapLock s 1 true ||
  pc = .flushUnmapLock s 1 false || pc = .flushUnmapNotify s 1 true || pc = .flushUnmapNotify s 1 false

/-- … at a point where the monitor reader is not mapped -/
def clFlush1Free (pc : CPc) (s : Nat) : Bool :=
  pc = .flushRmapLock s 1 || pc = .flushUnmapNotify s 1 true || pc = .flushUnmapNotify s 1 false

structure DUse (s : Nat) (st : Stream) (cl : Client) : Prop where
  ok : Ok st.sinkCh
  filt : st.filtCh = freshChan st.filtCh.c.cap
  nrd : (cv st.sinkCh).nrd = if st.monReg then 2 else 1
  /-- a failed `camera_get_frame` sends the source straight to its exit (a scripted fault is the only way to fail) -/
  nofail : (st.cam.emptyEvery = 0 → st.src.pc ≠ .abortLock) ∧ (st.cam.failAt = none → st.cam.failed = false) ∧ (st.src.pc = .failStop → st.cam.failed = true) ∧
      (st.cam.failed = true → st.src.pc = .failStop ∨ ((st.src.pc = .finalize ∨ st.src.pc = .done) ∧ st.cam.state ≠ .running))
  camrun : st.src.pc ≠ .done → st.cam.failed = false → st.cam.state = .running
  camrun8 : stage cl.pc s = 8 → st.cam.state = .running ∧ st.cam.failed = false
  /-- while the source holds a region a write is pending (after a failed `camera_get_frame` the region stays mapped for good:
  the next `channel_write_map` simply replaces it) -/
  pend : srcHold st.src.pc = true → (cv st.sinkCh).pending = true ∨ (st.src.pc = .commitLock ∧ st.src.cur = none)
  wlen : srcHold st.src.pc = true → (cv st.sinkCh).wlen = st.F
  rd0 : (cv st.sinkCh).m0 = true → snkHold st.snk.pc = true ∨ clHolds0 cl.pc s = true
  rd0pos : snkHold st.snk.pc = true → (cv st.sinkCh).i0 = st.snk.idx ∧ (cv st.sinkCh).l0 = st.snk.len
  mon : (cl.pc = .mapLock s ∨ clFlush1Free cl.pc s = true) → st.monReg = true → (cv st.sinkCh).m1 = false
  mon1 : clFlush1 cl.pc s = true → st.monReg = true
  fl0 : clHolds0 cl.pc s = true → (cv st.sinkCh).m0 = decide (0 < cl.flushLen)
  /-- after the source has aborted the write of an empty frame nothing of a write is in flight: its `channel_write_unmap`
  (the source unmaps unconditionally) changes nothing -/
  idle : st.src.pc = .commitLock → st.src.cur = none → Idle st.sinkCh

@[simp] theorem cv_pending (s : Sys) : (cv s).pending = s.pending := rfl
@[simp] theorem cv_wlen (s : Sys) : (cv s).wlen = s.wlen := rfl
@[simp] theorem cv_total (s : Sys) : (cv s).total = s.total := rfl
@[simp] theorem cv_nrd (s : Sys) : (cv s).nrd = s.rds.length := rfl
@[simp] theorem cv_acc (s : Sys) : (cv s).acc = s.c.accepting := rfl

/-- a premise that is always true (`rfl`, `Here.intro`): it mentions a field of the stream record that no action changes -/
def Here (st : Stream) : Prop := st.cam.emptyEvery = st.cam.emptyEvery
theorem Here.intro (st : Stream) : Here st := rfl

/-- the invariant, with its premise: the client has not broken a usage rule -/
def DUseP (s : Nat) (st : Stream) (cl : Client) : Prop :=
  Here st → cl.misused = false → DUse s st cl

end AcqVerif.Runtime
