import AcqVerif.Runtime.Data.StopDef
/-! # M1 — `DStop` is kept by every action of the worker threads -/
namespace AcqVerif.Runtime
open AcqVerif.Channel

theorem DStop.of_and {s : Nat} {st : Stream} {cl : Client}
    (h : (st.fltStopping = true → (1 ≤ stage cl.pc s ∧ stage cl.pc s ≤ 4) ∨ srcFin st.src.pc = true ∨ cl.startFailed = true) ∧
      (st.flt.flush = true → st.flt.pc ≠ .done → srcFin st.src.pc = true ∨ cl.startFailed = true) ∧
      (st.flt.pc = .done → srcFin st.src.pc = true ∨ cl.startFailed = true) ∧
      (st.snkStopping = true → (1 ≤ stage cl.pc s ∧ stage cl.pc s ≤ 3) ∨ (st.flt.pc = .done ∧ (srcFin st.src.pc = true ∨ cl.startFailed = true))) ∧
      ((snkErrLate st.snk.pc = true ∨ ((st.snk.pc = .exit ∨ st.snk.pc = .done) ∧ st.sto.drained = false)) →
          (st.src.pc ≠ .done ∨ 5 ≤ stage cl.pc s) → (cv st.sinkCh).acc = false) ∧
      (st.snk.pc = .stoStop → st.sto.drained = true) ∧
      (st.sto.drained = true → srcFin st.src.pc = true ∨ cl.startFailed = true) ∧
      ((cl.aborting = true ∨ cl.startFailed = true) → pastAccFalse cl.pc s = true → st.valid = true →
          st.src.pc ≠ .done → (cv st.sinkCh).acc = false) ∧
      (quiet cl.pc = true → cl.aborting = false ∧ cl.startFailed = false) ∧
      ((pendingFrom cl.pc).isSome = true → cl.aborting = false ∧ cl.startFailed = false) ∧
      (cl.startFailed = true → cl.aborting = false) ∧
      (afterErrStop cl.pc = true → cl.startFailed = true) ∧
      ((st.snk.pc = .exit ∨ st.snk.pc = .done) → 0 < st.sto.run →
          st.sto.drained = true ∨ st.sto.disturbed = true ∨ (2 ≤ stage cl.pc s ∧ stage cl.pc s ≤ 4))) : DStop s st cl :=
  let ⟨a1,a2,a3,a4,a5,a6,a7,a8,a9,a10,a11,a12,a13⟩ := h
  ⟨a1,a2,a3,a4,a5,a6,a7,a8,a9,a10,a11,a12,a13⟩

theorem DStop.src (s : Nat) (cl : Client) (rs : DevState) : ∀ a ∈ srcActs s, ∀ st, a.guard st = true → TInv s st cl rs → DUse s st cl →
    DStop s st cl → DStop s (a.upd st) cl := by
  intro a ha st hg ht hu h
  have hwo := hu.wmap_ok; have hwr := wmap_refused st.sinkCh st.F; have hab := hu.wabort; have hcm := hu.wcommit
  obtain ⟨c1, c2, c3, c4, c7, c7a, c8, y, yq, yqs, yqx, yqe, yend⟩ := h
  have tS := ht.start_src; have hs8 := stage_le cl.pc s
  unfold srcActs at ha
  each_action ha
  all_goals (simp only [setSrcPc, atWmap, wmapOut, wmapSys, chanOp, Bool.and_eq_true, Bool.or_eq_true, decide_eq_true_eq,
      Bool.not_eq_true', ne_eq] at hg ⊢)
  all_goals (apply DStop.of_and; dsimp only; (try simp only [srcFin, snkErrLate] at *); grind (splits := 16))

theorem DStop.flt (s : Nat) (cl : Client) (rs : DevState) : ∀ a ∈ fltActs, ∀ st, a.guard st = true → TInv s st cl rs → DUse s st cl → DStop s st cl → DStop s (a.upd st) cl := by
  intro a ha st hg ht hu h
  obtain ⟨k1, k2, k3, k4, k5, k6, k7, k8, k9, k10, k11, k12, k13, k14⟩ := hu
  obtain ⟨c1, c2, c3, c4, c7, c7a, c8, y, yq, yqs, yqx, yqe, yend⟩ := h
  have tF := ht.start_flt; have hs8 := stage_le cl.pc s
  have hf : (step st.filtCh (.rmap 0)).1 = st.filtCh := filt_rmap k2
  unfold fltActs at ha
  each_action ha
  all_goals (simp only [setFltPc, fltRead, chanOp, hf, Bool.and_eq_true, decide_eq_true_eq, Bool.not_eq_true'] at hg ⊢)
  all_goals (apply DStop.of_and; dsimp only; (try simp only [srcFin, snkErrLate] at *); grind (splits := 16))

theorem DStop.snk (s : Nat) (cl : Client) (rs : DevState) : ∀ a ∈ snkActs s, ∀ st, a.guard st = true → TInv s st cl rs → DUse s st cl → DEnd s st cl →
    DStop s st cl → DStop s (a.upd st) cl := by
  intro a ha st hg ht hu he h
  have t1 := ht.start_snk; have t3 := ht.joined_snk; have hs8 := stage_le cl.pc s
  have hch := clHolds0_stop cl.pc s
  obtain ⟨k1, k2, k3, k4, k5, k6, k7, k8, k9, k10, k11, k12, k13, k14⟩ := hu
  have e8 := he.snk_flush; have e10b := he.drained_pc; have e10a := he.err_disturbed
  obtain ⟨c1, c2, c3, c4, c7, c7a, c8, y, yq, yqs, yqx, yqe, yend⟩ := h
  have hn1 := nrd_pos k3
  have hrm := cv_rmap0 k1 hn1
  have hru := fun k => cv_runmap0 k1 k hn1
  have hac := cv_accept k1 false
  unfold snkActs at ha
  each_action ha
  all_goals (simp only [setSnkPc, snkRead, snkFrames, notifySink, chanOp, outLen_eq, getD0_eq, getD_idx0, Bool.and_eq_true,
      decide_eq_true_eq, Bool.not_eq_true', ne_eq] at hg ⊢)
  all_goals (apply DStop.of_and; dsimp only; (try simp only [snkHold, snkErr, snkErrLate, srcFin] at *); grind (splits := 16))

/-- what a client action has to keep, given the earlier invariants -/
def DStop.Kept (a : Act RT) : Prop :=
  ∀ rt, TInvAll rt → (∀ s, DUseP s (getS rt s) rt.client) → (∀ s, DEndP s (getS rt s) rt.client) →
    a.guard rt = true → (∀ s, DStopP s (getS rt s) rt.client) → ∀ s, DStopP s (getS (a.upd rt) s) (a.upd rt).client

end AcqVerif.Runtime
