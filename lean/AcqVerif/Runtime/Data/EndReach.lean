import AcqVerif.Runtime.Data.EndWorkers
/-! # M1 — `DEnd` is kept by every client action, and holds in every state any schedule reaches -/
namespace AcqVerif.Runtime
open AcqVerif.Channel

theorem DEnd.of_view {s : Nat} {st : Stream} {cl cl' : Client} (h : DEnd s st cl)
    (e1 : stage cl'.pc s = stage cl.pc s) (e2 : (cl'.pc = .accLock s false 1 ∨ cl'.pc = .accNotify s 1) ↔ (cl.pc = .accLock s false 1 ∨ cl.pc = .accNotify s 1)) : DEnd s st cl' := by
  cases h; constructor <;> (try simp only [e1, e2]) <;> assumption

set_option maxHeartbeats 800000 in
theorem DEnd.client (s0 : Nat) : ∀ a ∈ clientFamilies s0, DEnd.Kept a := by
  intro a ha rt hT hU hL hI hg h s' _ hm' hF'
  obtain ⟨eF, hmis⟩ := client_keeps ha rt hg s'
  have hm := hmis hm'
  have hF : 0 < (getS rt s').F := eF ▸ hF'
  have tS := (hT s').start_src; have tK := (hT s').start_snk; have tF := (hT s').start_flt; have tJ := (hT s').joined_snk; have tE := (hT s').after_err_stop; have tV := (hT s').start_valid
  have tJs := (hT s').joined_src; have tJf := (hT s').joined_flt; have tP := (hT s').pending
  have hs8 := stage_le rt.client.pc s'
  have hch := clHolds0_stop rt.client.pc s'
  have hdef : ¬ s' < rt.streams.length → rt.streams.getD s' {} = {} := by
    intro hl; simp [List.getD, List.getElem?_eq_none (Nat.le_of_not_lt hl)]
  have hvr := valid_in_range rt s'
  have hnvv := nv_spec rt s0
  obtain ⟨k1, k2, k3, k4, k5, k6, k7, k8, k9, k10, k11, k12, k13, k14⟩ := hU s' (Here.intro _) hm
  obtain ⟨d1, d2, d3, d4⟩ := hL s' (Here.intro _) hm
  obtain ⟨i1, i2, i3, i3', i4, i4', i5, i6, i7⟩ := hI s' (Here.intro _) hm hF
  have hOld := h s' (Here.intro _) hm hF
  have ⟨e1, e2, e2a, e3, e3a, e3b, e4, e5, e6, e7, e8, w2, w4, w5, w6, w8, wa, e10, e10a, e10b, e11, e12⟩ := hOld
  have hn1 := nrd_pos k3
  have hrm0 := cv_rmap0 k1 hn1
  have hru0 := fun k => cv_runmap0 k1 k hn1
  have hrm1 := cv_rmap1 k1
  have hru1 := fun k => cv_runmap1 k1 k
  have hac := fun b => cv_accept k1 b
  have hj := cv_join1 k1
  have hbad := fun k => runmap1_bad k1 k
  clear hT hU hL hI h hF' eF hmis
  simp only [getS, snkHold, snkErr, srcHold, srcFin, srcInLoop, srcComplete, logpos, clHolds0, clFlush1, clFlush1Free, AllDone] at *
  unfold clientFamilies clientPerStream clientBase clMon clCfg clStart clErr clStop clAcc clientFlush at ha
  each_action ha
  expose_streams
  all_goals (try (simp only [isOp, atPc, notifySink, setReaderChan, readerChan, readerIdx, flushRead, mapRead, mapMoved, chanOp,
      lockOk, monMapped, outLen_eq, getS, getD0_eq, getD_idx0, getD1_eq, getD_idx1, getD_stopAllFilters, markFlt,
      Bool.and_eq_true, Bool.or_eq_true, decide_eq_true_eq, Bool.not_eq_true', ne_eq] at hg ⊢))
  all_goals (try (simp at hg; done))
  all_goals (repeat' split)
  all_goals (first | (refine DEnd.of_view hOld ?_ ?_ <;> simp only [hg, stage, reduceCtorEq, false_or, iff_self] <;> done) | skip)
  all_goals (apply DEnd.of_and)
  all_goals (try dsimp only)
  all_goals ((try simp only [snkHold, snkErr, srcHold, srcFin, srcInLoop, srcComplete, logpos, clHolds0, clFlush1, clFlush1Free,
      AllDone, stage, stopStage] at ⊢) <;> grind (splits := 16) [stage, stopStage, afterErrStop])

theorem DEnd.init (ring : Nat) (c : Option StreamCfg) (prog : List COp) (s : Nat) : DEnd s (initStream ring c) { prog := prog } := by
  cases c <;> (constructor <;> simp [initStream, stage, srcFin, srcInLoop, snkErr, srcComplete])
  all_goals (simp [cv, freshChan, step, Sys.init, readMap, readerInit, readMapAt, readMapCore, nth])

theorem DEnd.default (prog : List COp) (s : Nat) : DEnd s {} { prog := prog } := by
  constructor <;> simp [stage, srcFin, srcInLoop, snkErr, srcComplete]
  all_goals (simp [cv, step, Sys.init, readMap, readerInit, readMapAt, readMapCore, nth])

/-- **the wind-down chain of an undisturbed acquisition, in every state of every schedule** -/
theorem DEnd.micro : ∀ rt, MReach rt → ∀ s, DEndP s (getS rt s) rt.client := by
  apply MReach.inv' (fun rt => ∀ s, DEndP s (getS rt s) rt.client)
  · intro ring cfgs prog s _ _ _
    rw [getS_initRT]
    split
    · exact DEnd.init ring _ prog s
    · exact DEnd.default prog s
  · intro s a ha rt hr hg h
    refine all_setS_cl DEndP rt s _ ?_ h
    intro he hm hF
    rw [src_keeps_F s a ha] at hF
    exact DEnd.src s rt.client rt.state a ha _ hg (TInvAll.micro rt hr s) (DUse.micro rt hr s (Here.intro _) hm) (DLog.micro rt hr s (Here.intro _) hm)
      (DId.micro rt hr s (Here.intro _) hm hF) hF (h s (Here.intro _) hm hF)
  · intro s a ha rt hr hg h
    refine all_setS_cl DEndP rt s _ ?_ h
    intro he hm hF
    rw [flt_keeps_F a ha] at hF
    exact DEnd.flt s rt.client rt.state a ha _ hg (TInvAll.micro rt hr s) (DUse.micro rt hr s (Here.intro _) hm) (h s (Here.intro _) hm hF)
  · intro s a ha rt hr hg h
    refine all_setS_cl DEndP rt s _ ?_ h
    intro he hm hF
    rw [snk_keeps_F s a ha] at hF
    exact DEnd.snk s rt.client rt.state a ha _ hg (TInvAll.micro rt hr s) (DUse.micro rt hr s (Here.intro _) hm) (DLog.micro rt hr s (Here.intro _) hm)
      (DId.micro rt hr s (Here.intro _) hm hF) (h s (Here.intro _) hm hF)
  · intro a ha rt hr hg h
    exact client_all DEnd.Kept DEnd.client a ha rt (TInvAll.micro rt hr) (DUse.micro rt hr) (DLog.micro rt hr) (DId.micro rt hr) hg h

end AcqVerif.Runtime
