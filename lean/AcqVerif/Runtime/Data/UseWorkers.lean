import AcqVerif.Runtime.Data.UseDef
/-! # M1 — `DUse` is kept by every action of the worker threads -/
namespace AcqVerif.Runtime
open AcqVerif.Channel

theorem DUse.of_and {s : Nat} {st : Stream} {cl : Client}
    (h : (Ok st.sinkCh) ∧
      (st.filtCh = freshChan st.filtCh.c.cap) ∧
      ((cv st.sinkCh).nrd = if st.monReg then 2 else 1) ∧
      ((st.cam.emptyEvery = 0 → st.src.pc ≠ .abortLock) ∧ (st.cam.failAt = none → st.cam.failed = false) ∧ (st.src.pc = .failStop → st.cam.failed = true) ∧
          (st.cam.failed = true → st.src.pc = .failStop ∨ ((st.src.pc = .finalize ∨ st.src.pc = .done) ∧ st.cam.state ≠ .running))) ∧
      (st.src.pc ≠ .done → st.cam.failed = false → st.cam.state = .running) ∧
      (stage cl.pc s = 8 → st.cam.state = .running ∧ st.cam.failed = false) ∧
      (srcHold st.src.pc = true → (cv st.sinkCh).pending = true ∨ (st.src.pc = .commitLock ∧ st.src.cur = none)) ∧
      (srcHold st.src.pc = true → (cv st.sinkCh).wlen = st.F) ∧
      ((cv st.sinkCh).m0 = true → snkHold st.snk.pc = true ∨ clHolds0 cl.pc s = true) ∧
      (snkHold st.snk.pc = true → (cv st.sinkCh).i0 = st.snk.idx ∧ (cv st.sinkCh).l0 = st.snk.len) ∧
      ((cl.pc = .mapLock s ∨ clFlush1Free cl.pc s = true) → st.monReg = true → (cv st.sinkCh).m1 = false) ∧
      (clFlush1 cl.pc s = true → st.monReg = true) ∧
      (clHolds0 cl.pc s = true → (cv st.sinkCh).m0 = decide (0 < cl.flushLen)) ∧
      (st.src.pc = .commitLock → st.src.cur = none → Idle st.sinkCh)) : DUse s st cl :=
  let ⟨a1,a2,a3,a4,a5,a6,a7,a8,a9,a10,a11,a12,a13,a14⟩ := h
  ⟨a1,a2,a3,a4,a5,a6,a7,a8,a9,a10,a11,a12,a13,a14⟩

theorem fresh_rmap (ring : Nat) : (step (freshChan ring) (.rmap 0)).1 = freshChan ring := by
  simp [freshChan, step, Sys.init, readMap, readerInit, readMapAt, readMapCore]
theorem fresh_runmap (ring k : Nat) : (step (freshChan ring) (.runmap 0 k)).1 = freshChan ring := by
  simp [freshChan, step, Sys.init, readMap, readerInit, readMapAt, readMapCore, readUnmap]
theorem fresh_cap (ring : Nat) : (freshChan ring).c.cap = ring := by
  simp [freshChan, step, Sys.init, readMap, readerInit, readMapAt, readMapCore]

theorem mapped_pos0 {c : Sys} (h : Ok c) (hn : 1 ≤ c.rds.length) : (cv c).m0 = true → 0 < (cv c).l0 := by
  obtain ⟨cap, g, hr⟩ := h
  intro hm
  exact (C02.read_region_committed hr 0 (by omega) hm).1

theorem clHolds0_stop (pc : CPc) (s : Nat) : clHolds0 pc s = true → 3 ≤ stopStage pc s := by
  unfold clHolds0
  intro h
  simp only [Bool.or_eq_true, decide_eq_true_eq] at h
  rcases h with (rfl | rfl) | rfl <;> simp [stopStage]

theorem getD_idx0 (c : Sys) : c.idx.getD 0 0 = (cv c).i0 := rfl

theorem getD0_eq (c : Sys) : (c.rds.getD 0 {}).mapped = (cv c).m0 := rfl

/-! What the source's four channel operations do to `sink.in` under `DUse`, as the later invariants need it: the view after
the operation as an update of the view before it. -/

theorem DUse.wmap_ok {s : Nat} {st : Stream} {cl : Client} (h : DUse s st cl) (hg : isWok (step st.sinkCh (.wmap st.F)).2 = true) :
    Ok (step st.sinkCh (.wmap st.F)).1 ∧
    cv (step st.sinkCh (.wmap st.F)).1 =
      { pending := true, wlen := st.F, total := (cv st.sinkCh).total,
        nrd := (cv st.sinkCh).nrd, m0 := (cv st.sinkCh).m0, m1 := (cv st.sinkCh).m1, i0 := (cv st.sinkCh).i0,
        i1 := (cv st.sinkCh).i1, l0 := (cv st.sinkCh).l0, l1 := (cv st.sinkCh).l1, acc := (cv st.sinkCh).acc } := by
  obtain ⟨b, hb⟩ := (isWok_iff _).mp hg
  exact cv_wmap_ok h.ok st.F b hb

theorem wmap_refused (c : Sys) (n : Nat) (hg : isWok (step c (.wmap n)).2 = false) : (step c (.wmap n)).1 = c :=
  cv_wmap_fail c n fun b hb => by rw [hb] at hg; cases hg

theorem DUse.wabort {s : Nat} {st : Stream} {cl : Client} (h : DUse s st cl) (hpc : st.src.pc = .abortLock) :
    Ok (step st.sinkCh .wabort).1 ∧
    cv (step st.sinkCh .wabort).1 =
      { pending := false, wlen := (cv st.sinkCh).wlen, total := (cv st.sinkCh).total,
        nrd := (cv st.sinkCh).nrd, m0 := (cv st.sinkCh).m0, m1 := (cv st.sinkCh).m1, i0 := (cv st.sinkCh).i0,
        i1 := (cv st.sinkCh).i1, l0 := (cv st.sinkCh).l0, l1 := (cv st.sinkCh).l1, acc := (cv st.sinkCh).acc } := by
  refine cv_wabort h.ok ?_
  rcases h.pend (by rw [hpc]; rfl) with hp | hp
  · exact hp
  · rw [hpc] at hp; cases hp.1

/-- `channel_write_unmap`: after an aborted write (empty frame) nothing is in flight and it changes nothing; otherwise it commits
the pending write, whose bytes count if the channel accepts writes -/
theorem DUse.wcommit {s : Nat} {st : Stream} {cl : Client} (h : DUse s st cl) (hpc : st.src.pc = .commitLock) :
    (st.src.cur = none ∧ (step st.sinkCh .wcommit).1 = st.sinkCh) ∨
    (st.src.cur ≠ none ∧ Ok (step st.sinkCh .wcommit).1 ∧
      cv (step st.sinkCh .wcommit).1 =
        { pending := false, wlen := (cv st.sinkCh).wlen, total := (cv st.sinkCh).total + if (cv st.sinkCh).acc then st.F else 0,
          nrd := (cv st.sinkCh).nrd, m0 := (cv st.sinkCh).m0, m1 := (cv st.sinkCh).m1, i0 := (cv st.sinkCh).i0,
          i1 := (cv st.sinkCh).i1, l0 := (cv st.sinkCh).l0, l1 := (cv st.sinkCh).l1, acc := (cv st.sinkCh).acc }) := by
  by_cases hc : st.src.cur = none
  · exact .inl ⟨hc, wcommit_idle (h.idle hpc hc)⟩
  · have hh : srcHold st.src.pc = true := by rw [hpc]; rfl
    rw [← h.wlen hh]
    exact .inr ⟨hc, cv_wcommit h.ok ((h.pend hh).resolve_right fun hp => hc hp.2)⟩

theorem filt_rmap {c : Sys} (h : c = freshChan c.c.cap) : (step c (.rmap 0)).1 = c := by
  have := fresh_rmap c.c.cap; rw [← h] at this; exact this
theorem filt_runmap {c : Sys} (h : c = freshChan c.c.cap) (k : Nat) : (step c (.runmap 0 k)).1 = c := by
  have := fresh_runmap c.c.cap k; rw [← h] at this; exact this

theorem DUse.flt (s : Nat) (cl : Client) : ∀ a ∈ fltActs, ∀ st, a.guard st = true → DUse s st cl → DUse s (a.upd st) cl := by
  intro a ha st hg h
  obtain ⟨k1, k2, k3, k4, k5, k6, k7, k8, k9, k10, k11, k12, k13, k14⟩ := h
  have hf := filt_rmap k2
  unfold fltActs at ha
  each_action ha
  all_goals (simp only [setFltPc, fltRead, chanOp, hf] at hg ⊢)
  all_goals (exact ⟨k1, k2, k3, k4, k5, k6, k7, k8, k9, k10, k11, k12, k13, k14⟩)

theorem nrd_pos {n : Nat} {b : Bool} (h : n = if b = true then 2 else 1) : 1 ≤ n := by split at h <;> omega

theorem DUse.snk (s : Nat) (cl : Client) (rs : DevState) : ∀ a ∈ snkActs s, ∀ st, a.guard st = true → TInv s st cl rs →
    DUse s st cl → DUse s (a.upd st) cl := by
  intro a ha st hg ht h
  obtain ⟨k1, k2, k3, k4, k5, k6, k7, k8, k9, k10, k11, k12, k13, k14⟩ := h
  have t1 := ht.start_snk; have t3 := ht.joined_snk; have t4 := ht.start_src; have hs8 := stage_le cl.pc s
  have hn1 := nrd_pos k3
  have hrm := cv_rmap0 k1 hn1
  have hru := fun k => cv_runmap0 k1 k hn1
  have hac := cv_accept k1 false
  have hml := mapped_pos0 k1 hn1
  have hch := clHolds0_stop cl.pc s
  have hirm := fun h => @idle_rmap st.sinkCh h 0
  have hiru := fun h k => @idle_runmap st.sinkCh h 0 k
  have hirf := fun h => @idle_refuse st.sinkCh h
  unfold snkActs at ha
  each_action ha
  all_goals (simp only [setSnkPc, snkRead, notifySink, chanOp, outLen_eq, getD0_eq, getD_idx0, Bool.and_eq_true,
      decide_eq_true_eq, Bool.not_eq_true', ne_eq] at hg ⊢)
  all_goals (apply DUse.of_and; dsimp only; (try simp only [snkHold, srcHold] at *); grind (splits := 16))

theorem DUse.src (s : Nat) (cl : Client) (rs : DevState) : ∀ a ∈ srcActs s, ∀ st, a.guard st = true → TInv s st cl rs →
    DUse s st cl → DUse s (a.upd st) cl := by
  intro a ha st hg ht h
  have hwo := h.wmap_ok; have hwr := wmap_refused st.sinkCh st.F
  have hab := h.wabort; have hcm := h.wcommit
  obtain ⟨k1, k2, k3, k4, k5, k6, k7, k8, k9, k10, k11, k12, k13, k14⟩ := h
  have t1 := ht.start_src; have t2 := ht.after_err_stop
  have hnf : st.cam.failAt = none → camFault st = false := by intro hf; simp [camFault, faultHits, hf]
  have hne : st.cam.emptyEvery = 0 → camEmpty st = false := by intro he; simp [camEmpty, he]
  have hiab := idle_wabort st.sinkCh
  unfold srcActs at ha
  each_action ha
  all_goals (simp only [setSrcPc, atWmap, wmapOut, wmapSys, chanOp, Bool.and_eq_true, Bool.or_eq_true, decide_eq_true_eq,
      Bool.not_eq_true', ne_eq] at hg ⊢)
  all_goals (apply DUse.of_and; dsimp only; (try simp only [srcHold] at *); grind (splits := 16))

theorem runmap1_bad {c : Sys} (_h : Ok c) (k : Nat) (hn : (cv c).nrd ≤ 1) : (step c (.runmap 1 k)).1 = c :=
  step_runmap_bad c 1 k hn

theorem getD1_eq (c : Sys) : (c.rds.getD 1 {}).mapped = (cv c).m1 := rfl
theorem getD_idx1 (c : Sys) : c.idx.getD 1 0 = (cv c).i1 := rfl

/-- what a client action has to keep, given the earlier invariants -/
def DUse.Kept (a : Act RT) : Prop :=
  ∀ rt, TInvAll rt → a.guard rt = true → (∀ s, DUseP s (getS rt s) rt.client) → ∀ s, DUseP s (getS (a.upd rt) s) (a.upd rt).client

end AcqVerif.Runtime
