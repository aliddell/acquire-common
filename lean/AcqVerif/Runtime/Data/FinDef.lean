import AcqVerif.Runtime.Data.EndReach
/-! # M1 — a source that has left its loop has committed every frame it produced (unless one was refused) -/
namespace AcqVerif.Runtime
open AcqVerif.Channel

structure DFin (s : Nat) (st : Stream) (cl : Client) : Prop where
  fin_count : srcFin st.src.pc = true → st.sto.dropped = false →
    st.sto.disturbed = true ∨ 2 ≤ stage cl.pc s ∨ st.sto.ncommit = st.src.iframe

def DFinP (s : Nat) (st : Stream) (cl : Client) : Prop :=
  Here st → cl.misused = false → 0 < st.F → DFin s st cl

theorem DFin.of_and {s : Nat} {st : Stream} {cl : Client}
    (h : (srcFin st.src.pc = true → st.sto.dropped = false →
    st.sto.disturbed = true ∨ 2 ≤ stage cl.pc s ∨ st.sto.ncommit = st.src.iframe)) : DFin s st cl :=
  ⟨h⟩

theorem DFin.src (s : Nat) (cl : Client) (rs : DevState) : ∀ a ∈ srcActs s, ∀ st, a.guard st = true → TInv s st cl rs → DId s st cl → DFin s st cl → DFin s (a.upd st) cl := by
  intro a ha st hg ht hi h
  obtain ⟨i1, i2, i3, i3', i4, i4', i5, i6, i7⟩ := hi
  obtain ⟨f1⟩ := h
  have tS := ht.start_src; have hs8 := stage_le cl.pc s
  have hcn : st.src.pc ≠ .commitLock → (st.src.cur.isSome = true → False) := by
    intro hpc hs; obtain ⟨f, hf⟩ := Option.isSome_iff_exists.mp hs; exact hpc (i4 f hf).1
  unfold srcActs at ha
  each_action ha
  all_goals (simp only [setSrcPc, atWmap, Bool.and_eq_true, Bool.or_eq_true, decide_eq_true_eq, Bool.not_eq_true', ne_eq] at hg ⊢)
  all_goals (apply DFin.of_and; dsimp only; (try simp only [srcFin] at *); grind (splits := 16))

theorem DFin.flt (s : Nat) (cl : Client) : ∀ a ∈ fltActs, ∀ st, a.guard st = true → DFin s st cl → DFin s (a.upd st) cl := by
  intro a ha st hg h
  obtain ⟨f1⟩ := h
  unfold fltActs at ha
  each_action ha
  all_goals (exact ⟨f1⟩)

theorem DFin.snk (s : Nat) (cl : Client) : ∀ a ∈ snkActs s, ∀ st, a.guard st = true → DFin s st cl → DFin s (a.upd st) cl := by
  intro a ha st hg h
  obtain ⟨f1⟩ := h
  unfold snkActs at ha
  each_action ha
  all_goals (simp only [setSnkPc, notifySink] at hg ⊢)
  all_goals (apply DFin.of_and; dsimp only; (try simp only [srcFin] at *); grind (splits := 16))

/-- what a client action has to keep, given the earlier invariants -/
def DFin.Kept (a : Act RT) : Prop :=
  ∀ rt, TInvAll rt → a.guard rt = true → (∀ s, DFinP s (getS rt s) rt.client) → ∀ s, DFinP s (getS (a.upd rt) s) (a.upd rt).client

end AcqVerif.Runtime
