import AcqVerif.Runtime.Data.FinReach
/-!
# M1 — refusing writes wakes a source that sleeps on a full ring (no lost wake-up at pipeline level)

`channel_write_map` decides to sleep only while the channel accepts writes, and holds the channel's lock from that decision
until it is asleep; whoever refuses writes afterwards (`acquire_abort`, the sink's error path) has a notification pending
until it has woken the source. So a source is never asleep on a channel that refuses writes without a notifier on its way.
-/
namespace AcqVerif.Runtime
open AcqVerif.Channel

theorem wmap_block_acc (c : Sys) (n : Nat) (h : (step c (.wmap n)).2 = .wblock) : (cv c).acc = true := by
  simp only [step] at h
  split at h
  · cases h
  · rename_i hw
    unfold writeMap at hw
    show c.c.accepting = true
    cases ha : c.c.accepting with
    | true => rfl
    | false =>
      simp only [ha] at hw
      (repeat' split at hw) <;> simp_all
  · cases h

structure DWake (s : Nat) (st : Stream) (cl : Client) : Prop where
  held : st.src.pc = .wmapWait → (cv st.sinkCh).acc = true
  refused_wakes : st.src.pc = .wmapAsleep → (cv st.sinkCh).acc = false → st.snk.pc = .errAccNotify ∨ cl.pc = .accNotify s 1

def DWakeP (s : Nat) (st : Stream) (cl : Client) : Prop :=
  Here st → cl.misused = false → DWake s st cl

theorem DWake.of_and {s : Nat} {st : Stream} {cl : Client}
    (h : (st.src.pc = .wmapWait → (cv st.sinkCh).acc = true) ∧
      (st.src.pc = .wmapAsleep → (cv st.sinkCh).acc = false → st.snk.pc = .errAccNotify ∨ cl.pc = .accNotify s 1)) : DWake s st cl :=
  let ⟨a1,a2⟩ := h
  ⟨a1,a2⟩

theorem DWake.src (s : Nat) (cl : Client) : ∀ a ∈ srcActs s, ∀ st, a.guard st = true → DUse s st cl → DWake s st cl → DWake s (a.upd st) cl := by
  intro a ha st hg hu h
  have hwo := hu.wmap_ok; have hwr := wmap_refused st.sinkCh st.F; have hab := hu.wabort; have hcm := hu.wcommit
  obtain ⟨w1, w2⟩ := h
  have hbl := wmap_block_acc st.sinkCh st.F
  unfold srcActs at ha
  each_action ha
  all_goals (simp only [setSrcPc, atWmap, wmapOut, wmapSys, chanOp, Bool.and_eq_true, Bool.or_eq_true, decide_eq_true_eq,
      Bool.not_eq_true', ne_eq] at hg ⊢)
  all_goals (apply DWake.of_and; dsimp only; grind (splits := 16))

theorem DWake.flt (s : Nat) (cl : Client) : ∀ a ∈ fltActs, ∀ st, a.guard st = true → DWake s st cl → DWake s (a.upd st) cl := by
  intro a ha st hg h
  obtain ⟨w1, w2⟩ := h
  unfold fltActs at ha
  each_action ha
  all_goals (exact ⟨w1, w2⟩)

theorem DWake.snk (s : Nat) (cl : Client) (rs : DevState) : ∀ a ∈ snkActs s, ∀ st, a.guard st = true → TInv s st cl rs → DUse s st cl → DWake s st cl → DWake s (a.upd st) cl := by
  intro a ha st hg ht hu h
  have t1 := ht.start_snk; have t3 := ht.joined_snk; have hs8 := stage_le cl.pc s
  have hch := clHolds0_stop cl.pc s
  obtain ⟨k1, k2, k3, k4, k5, k6, k7, k8, k9, k10, k11, k12, k13, k14⟩ := hu
  obtain ⟨w1, w2⟩ := h
  have hn1 := nrd_pos k3
  have hrm := cv_rmap0 k1 hn1
  have hru := fun k => cv_runmap0 k1 k hn1
  have hac := cv_accept k1 false
  unfold snkActs at ha
  each_action ha
  all_goals (simp only [setSnkPc, snkRead, snkFrames, notifySink, sinkLockFree, chanOp, outLen_eq, getD0_eq, getD_idx0,
      Bool.and_eq_true, decide_eq_true_eq, Bool.not_eq_true', ne_eq] at hg ⊢)
  all_goals (apply DWake.of_and; dsimp only; (try simp only [snkHold] at *); grind (splits := 16))

/-- what a client action has to keep, given the earlier invariants -/
def DWake.Kept (a : Act RT) : Prop :=
  ∀ rt, TInvAll rt → (∀ s, DUseP s (getS rt s) rt.client) → a.guard rt = true →
    (∀ s, DWakeP s (getS rt s) rt.client) → ∀ s, DWakeP s (getS (a.upd rt) s) (a.upd rt).client

end AcqVerif.Runtime
