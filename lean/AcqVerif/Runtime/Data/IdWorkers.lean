import AcqVerif.Runtime.Data.IdDef
/-! # M1 — `DId` is kept by every action of the worker threads -/
namespace AcqVerif.Runtime
open AcqVerif.Channel

theorem DId.of_and {s : Nat} {st : Stream} {cl : Client}
    (h : (since st.sinkFrames st.sto.base = expected st.cam.run st.sto.base st.F st.sto.ncommit) ∧
      ((cv st.sinkCh).total = st.sto.base + st.sto.ncommit * st.F) ∧
      (st.src.pc ≠ .done → st.sto.dropped = false → st.src.iframe = st.sto.ncommit + (if st.src.cur.isSome then 1 else 0)) ∧
      (st.src.pc ≠ .done → st.cam.frame = st.src.iframe) ∧
      (∀ f, st.src.cur = some f → st.src.pc = .commitLock ∧ 0 < st.src.iframe ∧ f = ⟨st.cam.run, st.src.iframe - 1, st.src.iframe - 1⟩) ∧
      (st.src.pc = .abortLock → st.src.cur = none) ∧
      (st.sto.dropped = true → (cv st.sinkCh).acc = false ∨ st.src.pc = .done) ∧
      (2 ≤ stage cl.pc s → st.sto.ncommit = 0 ∧ st.sto.dropped = false) ∧
      (stage cl.pc s = 8 → st.cam.frame = 0)) : DId s st cl :=
  let ⟨a1,a2,a3,a4,a5,a6,a7,a8,a9⟩ := h
  ⟨a1,a2,a3,a4,a5,a6,a7,a8,a9⟩

theorem DId.src (s : Nat) (cl : Client) (rs : DevState) : ∀ a ∈ srcActs s, ∀ st, a.guard st = true → TInv s st cl rs → DUse s st cl → DLog s st cl →
    0 < st.F → DId s st cl → DId s (a.upd st) cl := by
  intro a ha st hg ht hu hl hF h
  have hwo := hu.wmap_ok; have hwr := wmap_refused st.sinkCh st.F; have hab := hu.wabort
  obtain ⟨i1, i2, i3, i3', i4, i4', i5, i6, i7⟩ := h
  have tS := ht.start_src; have hs8 := stage_le cl.pc s
  have hcurn : st.src.pc ≠ .commitLock → st.src.cur = none := by
    intro h
    cases hc : st.src.cur with
    | none => rfl
    | some f => exact absurd (i4 f hc).1 h
  unfold srcActs at ha
  each_action ha
  all_goals (simp only [setSrcPc, atWmap, wmapOut, wmapSys, chanOp, ← cv_total, Bool.and_eq_true, Bool.or_eq_true, decide_eq_true_eq,
      Bool.not_eq_true', ne_eq] at hg ⊢)
  -- src.frame.ok
  case inr.inr.inr.inr.inr.inr.inr.inr.inr.inr.inr.inr.inr.inr.inr.inl =>
    have hpc : st.src.pc ≠ .done := by rw [hg.1.1]; simp
    have hcn : st.src.cur = none := by
      cases hc : st.src.cur with
      | none => rfl
      | some f => have := (i4 f hc).1; rw [hg.1.1] at this; cases this
    have hw := i3' hpc
    constructor
    · exact i1
    · exact i2
    · intro _ hd; have := i3 hpc hd; simp [hcn] at this ⊢; omega
    · intro _; simp; omega
    · intro f hf'; simp at hf'; subst hf'; simp; rw [hw]
    · intro h; cases h
    · intro hd; rcases i5 hd with h1 | h1
      · left; exact h1
      · exact absurd h1 hpc
    · exact i6
    · intro h8; have := tS (by omega) (by omega); exact absurd this hpc
  -- src.commit
  case inr.inr.inr.inr.inr.inr.inr.inr.inr.inr.inr.inr.inr.inr.inr.inr.inr.inr.inl =>
    have hpc : st.src.pc ≠ .done := by rw [hg.1]; simp
    rcases hu.wcommit hg.1 with ⟨hcn, hs⟩ | ⟨hcn, hok, hcv⟩
    · apply DId.of_and; simp only [hs, addFrame]; grind
    · obtain ⟨f, hcur⟩ := Option.ne_none_iff_exists'.mp hcn
      obtain ⟨_, hpos, hfid⟩ := i4 f hcur
      cases hacc : (cv st.sinkCh).acc with
      | true =>
        have hnd : st.sto.dropped = false := by
          cases hd : st.sto.dropped with
          | false => rfl
          | true => rcases i5 hd with h1 | h1
                    · rw [hacc] at h1; cases h1
                    · exact absurd h1 hpc
        have hcount := i3 hpc hnd
        simp only [hcur, Option.isSome_some, ite_true] at hcount
        constructor
        all_goals (simp only [hcv, hacc, ite_true, hcur, Option.isSome_some, addFrame, Bool.true_and])
        all_goals (try simp only [show (cv st.sinkCh).total + st.F > (cv st.sinkCh).total from by omega, decide_true, ite_true,
            Bool.not_true, Bool.or_false, and_self])
        · rw [since_snoc_in _ _ _ (by rw [i2]; omega), i1, expected_succ]
          have e1 : st.src.iframe - 1 = st.sto.ncommit := by omega
          rw [i2, hfid, e1]
        · rw [i2]; simp [Nat.add_mul]; omega
        · intro _ _; simp; omega
        · intro _; exact i3' hpc
        · intro f' hf'; cases hf'
        · intro h'; cases h'
        · intro hd; rw [hnd] at hd; cases hd
        · intro h2; have := tS (by omega) (by omega); exact absurd this hpc
        · intro h8; have := tS (by omega) (by omega); exact absurd this hpc
      | false =>
        constructor
        all_goals (simp only [hcv, hacc, hcur, Option.isSome_some, addFrame, Bool.true_and])
        all_goals (try simp only [Nat.add_zero, gt_iff_lt, Nat.lt_irrefl,
            decide_false, ite_false, Bool.false_eq_true, Bool.not_false, Bool.or_true])
        · exact i1
        · simpa using i2
        · intro _ hd; simp at hd
        · intro _; exact i3' hpc
        · intro f' hf'; cases hf'
        · intro h'; cases h'
        · first | (intro _; left; rfl) | trivial | simp
        · intro h2; have := tS (by omega) (by omega); exact absurd this hpc
        · intro h8; have := tS (by omega) (by omega); exact absurd this hpc
  all_goals (apply DId.of_and; dsimp only; grind (splits := 16))

theorem DId.flt (s : Nat) (cl : Client) : ∀ a ∈ fltActs, ∀ st, a.guard st = true → DId s st cl → DId s (a.upd st) cl := by
  intro a ha st hg h
  obtain ⟨i1, i2, i3, i3', i4, i4', i5, i6, i7⟩ := h
  unfold fltActs at ha
  each_action ha
  all_goals (exact ⟨i1, i2, i3, i3', i4, i4', i5, i6, i7⟩)

theorem DId.snk (s : Nat) (cl : Client) (rs : DevState) : ∀ a ∈ snkActs s, ∀ st, a.guard st = true → TInv s st cl rs → DUse s st cl → DId s st cl → DId s (a.upd st) cl := by
  intro a ha st hg ht hu h
  have t1 := ht.start_snk; have t3 := ht.joined_snk; have hs8 := stage_le cl.pc s
  have hch := clHolds0_stop cl.pc s
  obtain ⟨k1, k2, k3, k4, k5, k6, k7, k8, k9, k10, k11, k12, k13, k14⟩ := hu
  obtain ⟨i1, i2, i3, i3', i4, i4', i5, i6, i7⟩ := h
  have hn1 := nrd_pos k3
  have hrm := cv_rmap0 k1 hn1
  have hru := fun k => cv_runmap0 k1 k hn1
  have hac := cv_accept k1 false
  have hml := mapped_pos0 k1 hn1
  unfold snkActs at ha
  each_action ha
  all_goals (simp only [setSnkPc, snkRead, snkFrames, notifySink, chanOp, outLen_eq, getD0_eq, getD_idx0, Bool.and_eq_true,
      decide_eq_true_eq, Bool.not_eq_true', ne_eq] at hg ⊢)
  all_goals (apply DId.of_and; dsimp only; (try simp only [snkHold] at *); grind (splits := 16))

/-- what a client action has to keep, given the earlier invariants -/
def DId.Kept (a : Act RT) : Prop :=
  ∀ rt, TInvAll rt → (∀ s, DUseP s (getS rt s) rt.client) → (∀ s, DLogP s (getS rt s) rt.client) → a.guard rt = true →
    (∀ s, DIdP s (getS rt s) rt.client) → ∀ s, DIdP s (getS (a.upd rt) s) (a.upd rt).client

end AcqVerif.Runtime
