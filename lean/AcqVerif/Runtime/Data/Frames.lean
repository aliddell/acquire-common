import AcqVerif.Runtime.Data.UseReach
/-!
# M1 — the frames committed to `sink.in`, and which of them a byte range selects
-/
namespace AcqVerif.Runtime
open AcqVerif.Channel

/-- the committed frames lie one after the other in the stream, each `F` bytes long, all below `total` -/
def FramesOk (fs : List (Nat × Frame)) (F total : Nat) : Prop :=
  fs.Pairwise (fun p q => p.1 + F ≤ q.1) ∧ ∀ p ∈ fs, p.1 + F ≤ total

theorem FramesOk.nil (F total : Nat) : FramesOk [] F total := ⟨List.Pairwise.nil, fun _ h => by cases h⟩

theorem framesIn_zero (fs : List (Nat × Frame)) (i : Nat) : framesIn fs i 0 = [] := by
  unfold framesIn
  simp only [List.map_eq_nil_iff, List.filter_eq_nil_iff]
  intro p _; simp

theorem framesIn_nil (i l : Nat) : framesIn [] i l = [] := rfl

/-- a frame committed at or beyond the end of the range is not selected -/
theorem framesIn_snoc_out (fs : List (Nat × Frame)) (p : Nat × Frame) (i l : Nat) (h : i + l ≤ p.1) :
    framesIn (fs ++ [p]) i l = framesIn fs i l := by
  unfold framesIn
  rw [List.filter_append]
  have : List.filter (fun q : Nat × Frame => decide (i ≤ q.1 ∧ q.1 < i + l)) [p] = [] := by
    simp; omega
  rw [this]; simp

theorem framesIn_cons (p : Nat × Frame) (fs : List (Nat × Frame)) (i l : Nat) :
    framesIn (p :: fs) i l = (if i ≤ p.1 ∧ p.1 < i + l then [p.2] else []) ++ framesIn fs i l := by
  unfold framesIn
  simp only [List.filter_cons]
  split <;> simp_all

/-- in a list sorted by start byte, nothing after an element starts below it -/
theorem framesIn_empty_of_sorted (fs : List (Nat × Frame)) (F a l b : Nat)
    (h : ∀ q ∈ fs, b ≤ q.1) (hb : a + l ≤ b) : framesIn fs a l = [] := by
  unfold framesIn
  simp only [List.map_eq_nil_iff, List.filter_eq_nil_iff]
  intro q hq; have := h q hq; simp; omega

/-- **consecutive ranges select consecutive frames**: for frames sorted by start byte, the frames starting in
`[a, a+l₁)` followed by those starting in `[a+l₁, a+l₁+l₂)` are the frames starting in `[a, a+l₁+l₂)` -/
theorem framesIn_split (fs : List (Nat × Frame)) (F a l1 l2 : Nat) (hs : fs.Pairwise (fun p q => p.1 + F ≤ q.1)) :
    framesIn fs a l1 ++ framesIn fs (a + l1) l2 = framesIn fs a (l1 + l2) := by
  induction fs with
  | nil => rfl
  | cons p rest ih =>
    have hrest := (List.pairwise_cons.mp hs).2
    have hp := (List.pairwise_cons.mp hs).1
    rw [framesIn_cons, framesIn_cons, framesIn_cons]
    have ih' := ih hrest
    by_cases h1 : a ≤ p.1 ∧ p.1 < a + l1
    · -- p is in the first range
      rw [if_pos h1, if_neg (by omega), if_pos (by omega)]
      simp only [List.nil_append, List.cons_append]
      rw [ih']
    · by_cases h2 : a + l1 ≤ p.1 ∧ p.1 < a + l1 + l2
      · -- p is in the second range: nothing of the rest is in the first
        rw [if_neg h1, if_pos h2, if_pos (by omega)]
        have he : framesIn rest a l1 = [] :=
          framesIn_empty_of_sorted rest F a l1 p.1 (fun q hq => by have := hp q hq; omega) (by omega)
        rw [he] at ih' ⊢
        simp only [List.nil_append] at ih' ⊢
        rw [← ih']
      · rw [if_neg h1, if_neg h2, if_neg (by omega)]
        simp only [List.nil_append]
        exact ih'

/-- committing one more frame at `total` keeps the list well formed -/
theorem FramesOk.snoc {fs : List (Nat × Frame)} {F total : Nat} (h : FramesOk fs F total) (fr : Frame) :
    FramesOk (fs ++ [(total, fr)]) F (total + F) := by
  constructor
  · rw [List.pairwise_append]
    refine ⟨h.1, List.pairwise_singleton _ _, ?_⟩
    intro p hp q hq
    simp only [List.mem_singleton] at hq; subst hq
    exact h.2 p hp
  · intro p hp
    rcases List.mem_append.mp hp with hp | hp
    · have := h.2 p hp; omega
    · simp only [List.mem_singleton] at hp; subst hp; simp

theorem FramesOk.mono {fs : List (Nat × Frame)} {F total total' : Nat} (h : FramesOk fs F total) (hle : total ≤ total') :
    FramesOk fs F total' :=
  ⟨h.1, fun p hp => by have := h.2 p hp; omega⟩

end AcqVerif.Runtime
