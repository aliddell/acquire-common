import AcqVerif.Runtime.Data.EndDef
/-! # M1 — `DEnd` is kept by every action of the worker threads -/
namespace AcqVerif.Runtime
open AcqVerif.Channel

theorem DEnd.of_and {s : Nat} {st : Stream} {cl : Client}
    (h : (st.srcStopping = true → st.sto.disturbed = true ∨ srcFin st.src.pc = true) ∧
      (st.sto.dropped = true → st.sto.disturbed = true) ∧
      ((cv st.sinkCh).acc = false → st.sto.disturbed = true ∨ (1 ≤ stage cl.pc s ∧ stage cl.pc s ≤ 2)) ∧
      (st.src.pc ≠ .done → st.sto.disturbed = true ∨ st.src.iframe ≤ st.maxFrames) ∧
      (srcInLoop st.src.pc = true → st.sto.disturbed = true ∨ st.src.iframe < st.maxFrames) ∧
      ((st.src.pc = .finalize ∨ st.src.pc = .camStop) → st.sto.disturbed = true ∨ st.src.iframe = st.maxFrames) ∧
      (st.fltStopping = true → (1 ≤ stage cl.pc s ∧ stage cl.pc s ≤ 4) ∨ st.sto.disturbed = true ∨ srcComplete st) ∧
      (st.flt.flush = true → st.flt.pc ≠ .done → st.sto.disturbed = true ∨ srcComplete st) ∧
      (st.flt.pc = .done → st.sto.disturbed = true ∨ srcFin st.src.pc = true) ∧
      (st.snkStopping = true → (1 ≤ stage cl.pc s ∧ stage cl.pc s ≤ 3) ∨ (st.flt.pc = .done ∧ (st.sto.disturbed = true ∨ srcComplete st))) ∧
      (st.snk.flush = true → st.snk.pc ≠ .done → st.sto.state = .running → st.snkStopping = true) ∧
      (2 ≤ stage cl.pc s → st.sto.drained = false) ∧
      (4 ≤ stage cl.pc s → st.snkStopping = false) ∧
      (5 ≤ stage cl.pc s → st.fltStopping = false) ∧
      (6 ≤ stage cl.pc s → st.flt.flush = false ∧ st.flt.pc ≠ .done) ∧
      (stage cl.pc s = 8 → st.srcStopping = true → st.sto.disturbed = true) ∧
      ((cl.pc = .accLock s false 1 ∨ cl.pc = .accNotify s 1) → st.sto.disturbed = true) ∧
      (st.snk.flush = true → st.sto.state = .running → (st.snk.pc = .rmapNotify ∨ st.snk.pc = .afterMap) → st.snk.len = 0 →
          st.sto.disturbed = false → (cv st.sinkCh).i0 = (cv st.sinkCh).total) ∧
      (snkErr st.snk.pc = true → st.sto.disturbed = true) ∧
      (st.sto.drained = true → st.snk.pc = .stoStop ∨ st.snk.pc = .exit ∨ st.snk.pc = .done) ∧
      (st.sto.drained = true → st.sto.disturbed = false → st.sto.clean = true →
          st.sto.appended = (cv st.sinkCh).total ∧ srcComplete st ∧ st.src.cur = none) ∧
      (st.src.pc = .failStop → st.sto.disturbed = true)) : DEnd s st cl :=
  let ⟨a1,a2,a3,a4,a5,a6,a7,a8,a9,a10,a11,a12,a13,a14,a15,a16,a17,a18,a19,a20,a21,a22⟩ := h
  ⟨a1,a2,a3,a4,a5,a6,a7,a8,a9,a10,a11,a12,a13,a14,a15,a16,a17,a18,a19,a20,a21,a22⟩

theorem DEnd.src (s : Nat) (cl : Client) (rs : DevState) : ∀ a ∈ srcActs s, ∀ st, a.guard st = true → TInv s st cl rs → DUse s st cl → DLog s st cl →
    DId s st cl → 0 < st.F → DEnd s st cl → DEnd s (a.upd st) cl := by
  intro a ha st hg ht hu hl hi hF h
  have hwo := hu.wmap_ok; have hwr := wmap_refused st.sinkCh st.F; have hab := hu.wabort; have hcm := hu.wcommit
  obtain ⟨k1, k2, k3, k4, k5, k6, k7, k8, k9, k10, k11, k12, k13, k14⟩ := hu
  obtain ⟨d1, d2, d3, d4⟩ := hl
  obtain ⟨i1, i2, i3, i3', i4, i4', i5, i6, i7⟩ := hi
  obtain ⟨e1, e2, e2a, e3, e3a, e3b, e4, e5, e6, e7, e8, w2, w4, w5, w6, w8, wa, e10, e10a, e10b, e11, e12⟩ := h
  have tS := ht.start_src; have hs8 := stage_le cl.pc s
  unfold srcActs at ha
  each_action ha
  all_goals (simp only [setSrcPc, atWmap, wmapOut, wmapSys, chanOp, srcCont, ← cv_total, Bool.and_eq_true, Bool.or_eq_true,
      decide_eq_true_eq, Bool.not_eq_true', ne_eq] at hg ⊢)
  all_goals (apply DEnd.of_and; dsimp only; (try simp only [srcFin, srcInLoop, snkErr, srcComplete] at *); grind (splits := 16))

theorem DEnd.flt (s : Nat) (cl : Client) (rs : DevState) : ∀ a ∈ fltActs, ∀ st, a.guard st = true → TInv s st cl rs → DUse s st cl → DEnd s st cl → DEnd s (a.upd st) cl := by
  intro a ha st hg ht hu h
  obtain ⟨k1, k2, k3, k4, k5, k6, k7, k8, k9, k10, k11, k12, k13, k14⟩ := hu
  obtain ⟨e1, e2, e2a, e3, e3a, e3b, e4, e5, e6, e7, e8, w2, w4, w5, w6, w8, wa, e10, e10a, e10b, e11, e12⟩ := h
  have tF := ht.start_flt; have hs8 := stage_le cl.pc s
  have hf : (step st.filtCh (.rmap 0)).1 = st.filtCh := filt_rmap k2
  unfold fltActs at ha
  each_action ha
  all_goals (simp only [setFltPc, fltRead, chanOp, hf, Bool.and_eq_true, decide_eq_true_eq, Bool.not_eq_true'] at hg ⊢)
  all_goals (apply DEnd.of_and; dsimp only; (try simp only [srcFin, srcInLoop, snkErr, srcComplete] at *); grind (splits := 16))

theorem DEnd.snk (s : Nat) (cl : Client) (rs : DevState) : ∀ a ∈ snkActs s, ∀ st, a.guard st = true → TInv s st cl rs → DUse s st cl → DLog s st cl →
    DId s st cl → DEnd s st cl → DEnd s (a.upd st) cl := by
  intro a ha st hg ht hu hl hi h
  have i4 := hi.cur
  have t1 := ht.start_snk; have t3 := ht.joined_snk; have hs8 := stage_le cl.pc s
  have hch := clHolds0_stop cl.pc s
  obtain ⟨k1, k2, k3, k4, k5, k6, k7, k8, k9, k10, k11, k12, k13, k14⟩ := hu
  obtain ⟨d1, d2, d3, d4⟩ := hl
  obtain ⟨e1, e2, e2a, e3, e3a, e3b, e4, e5, e6, e7, e8, w2, w4, w5, w6, w8, wa, e10, e10a, e10b, e11, e12⟩ := h
  have hn1 := nrd_pos k3
  have hrm := cv_rmap0 k1 hn1
  have hru := fun k => cv_runmap0 k1 k hn1
  have hac := cv_accept k1 false
  have hml := mapped_pos0 k1 hn1
  unfold snkActs at ha
  each_action ha
  all_goals (simp only [setSnkPc, snkRead, snkFrames, notifySink, chanOp, outLen_eq, getD0_eq, getD_idx0, Bool.and_eq_true,
      decide_eq_true_eq, Bool.not_eq_true', ne_eq] at hg ⊢)
  -- snk.map.empty.flush
  case inr.inr.inr.inr.inr.inr.inr.inr.inr.inr.inl =>
    constructor
    case drained =>
      intro _ hnd hc
      dsimp only at hnd hc ⊢
      have hpc : st.snk.pc ≠ .done := by rw [hg.1.1.1]; simp
      have hnr : st.snk.pc ≠ .runmapLock := by rw [hg.1.1.1]; simp
      have h0 := e10 hg.2 hg.1.1.2 (Or.inr hg.1.1.1) hg.1.2 hnd
      have hal := d3 hc hpc
      simp only [logpos, if_neg hnr] at hal
      have hss := e8 hg.2 hpc hg.1.1.2
      have hcomp : srcComplete st := by
        rcases e7 hss with h1 | ⟨_, h2⟩
        · have := t1 h1.1 (by omega); exact absurd this hpc
        · rcases h2 with h3 | h3
          · rw [hnd] at h3; cases h3
          · exact h3
      refine ⟨by rw [← hal, h0], hcomp, ?_⟩
      cases hcur : st.src.cur with
      | none => rfl
      | some f => have := (i4 f hcur).1; have hf := hcomp.1; rw [this] at hf; simp [srcFin] at hf
    all_goals (first | assumption | ((try simp only [snkHold, snkErr, srcFin, srcInLoop, srcComplete, logpos] at *) <;> grind))
  all_goals (apply DEnd.of_and; dsimp only; (try simp only [snkHold, snkErr, srcFin, srcInLoop, srcComplete, logpos] at *); grind (splits := 16))

theorem valid_in_range (rt : RT) (i : Nat) (h : (rt.streams.getD i {}).valid = true) : i < rt.streams.length := by
  by_cases hl : i < rt.streams.length
  · exact hl
  · exfalso
    have : rt.streams.getD i {} = {} := by simp [List.getD, List.getElem?_eq_none (Nat.le_of_not_lt hl)]
    rw [this] at h; cases h

/-- what a client action has to keep, given the earlier invariants -/
def DEnd.Kept (a : Act RT) : Prop :=
  ∀ rt, TInvAll rt → (∀ s, DUseP s (getS rt s) rt.client) → (∀ s, DLogP s (getS rt s) rt.client) → (∀ s, DIdP s (getS rt s) rt.client) →
    a.guard rt = true → (∀ s, DEndP s (getS rt s) rt.client) → ∀ s, DEndP s (getS (a.upd rt) s) (a.upd rt).client

end AcqVerif.Runtime
