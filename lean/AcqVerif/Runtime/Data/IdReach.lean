import AcqVerif.Runtime.Data.IdWorkers
/-! # M1 — `DId` is kept by every client action, and holds in every state any schedule reaches -/
namespace AcqVerif.Runtime
open AcqVerif.Channel

theorem DId.of_view {s : Nat} {st : Stream} {cl cl' : Client} (h : DId s st cl)
    (e1 : stage cl'.pc s = stage cl.pc s) : DId s st cl' := by
  cases h; constructor <;> (try simp only [e1]) <;> assumption

set_option maxHeartbeats 600000 in
theorem DId.client (s0 : Nat) : ∀ a ∈ clientFamilies s0, DId.Kept a := by
  intro a ha rt hT hU hL hg h s' hhere hm' hF'
  obtain ⟨eF, hmis⟩ := client_keeps ha rt hg s'
  have hm := hmis hm'
  have hF : 0 < (getS rt s').F := eF ▸ hF'
  have tS := (hT s').start_src; have tK := (hT s').start_snk; have tJ := (hT s').joined_snk; have tE := (hT s').after_err_stop; have tV := (hT s').start_valid
  have tJs := (hT s').joined_src; have tP := (hT s').pending
  have hs8 := stage_le rt.client.pc s'
  have hch := clHolds0_stop rt.client.pc s'
  have hdef : ¬ s' < rt.streams.length → rt.streams.getD s' {} = {} := by
    intro hl; simp [List.getD, List.getElem?_eq_none (Nat.le_of_not_lt hl)]
  obtain ⟨k1, k2, k3, k4, k5, k6, k7, k8, k9, k10, k11, k12, k13, k14⟩ := hU s' (Here.intro _) hm
  obtain ⟨d1, d2, d3, d4⟩ := hL s' (Here.intro _) hm
  have hOld := h s' (Here.intro _) hm hF
  have ⟨i1, i2, i3, i3', i4, i4', i5, i6, i7⟩ := hOld
  have hn1 := nrd_pos k3
  have hrm0 := cv_rmap0 k1 hn1
  have hru0 := fun k => cv_runmap0 k1 k hn1
  have hrm1 := cv_rmap1 k1
  have hru1 := fun k => cv_runmap1 k1 k
  have hac := fun b => cv_accept k1 b
  have hj := cv_join1 k1
  have hbad := fun k => runmap1_bad k1 k
  have hsn : since (getS rt s').sinkFrames (getS rt s').sinkCh.total = [] := since_total_nil d1 hF
  have hct : (cv (getS rt s').sinkCh).total = (getS rt s').sinkCh.total := rfl
  have hex0 : ∀ run base F, expected run base F 0 = [] := fun _ _ _ => by simp [expected]
  clear hT hU hL h hF' eF hmis hhere k2
  simp only [getS, snkHold, srcHold, clHolds0, clFlush1, clFlush1Free, AllDone] at *
  unfold clientFamilies clientPerStream clientBase clMon clCfg clStart clErr clStop clAcc clientFlush at ha
  each_action ha
  expose_streams
  all_goals (try (simp only [isOp, atPc, notifySink, setReaderChan, readerChan, readerIdx, flushRead, mapRead, mapMoved, chanOp,
      lockOk, monMapped, outLen_eq, getS, getD0_eq, getD_idx0, getD1_eq, getD_idx1, Bool.and_eq_true, Bool.or_eq_true,
      decide_eq_true_eq, Bool.not_eq_true', ne_eq] at hg ⊢))
  all_goals (try (simp at hg; done))
  all_goals (repeat' split)
  all_goals (first | (refine DId.of_view hOld ?_ <;> simp only [hg, stage] <;> done) | skip)
  all_goals (apply DId.of_and)
  all_goals (try dsimp only)
  all_goals ((try simp only [snkHold, srcHold, clHolds0, clFlush1, clFlush1Free, AllDone, stage,
      stopStage] at ⊢) <;> grind (splits := 16) [stage, stopStage, afterErrStop, expected, since])

theorem DId.init (ring : Nat) (c : Option StreamCfg) (prog : List COp) (s : Nat) : DId s (initStream ring c) { prog := prog } := by
  cases c <;> (constructor <;> simp [initStream, stage, expected, since])
  all_goals (simp [cv, freshChan, step, Sys.init, readMap, readerInit, readMapAt, readMapCore, nth])

theorem DId.default (prog : List COp) (s : Nat) : DId s {} { prog := prog } := by
  constructor <;> simp [stage, expected, since]
  all_goals (simp [cv, step, Sys.init, readMap, readerInit, readMapAt, readMapCore, nth])

theorem src_keeps_F (s : Nat) : ∀ a ∈ srcActs s, ∀ st, (a.upd st).F = st.F := by
  intro a ha st; unfold srcActs at ha; each_action ha <;> rfl
theorem flt_keeps_F : ∀ a ∈ fltActs, ∀ st, (a.upd st).F = st.F := by
  intro a ha st; unfold fltActs at ha; each_action ha <;> rfl
theorem snk_keeps_F (s : Nat) : ∀ a ∈ snkActs s, ∀ st, (a.upd st).F = st.F := by
  intro a ha st; unfold snkActs at ha; each_action ha <;> rfl

/-- **the frames committed in a run are the camera's frames 0, 1, 2, … in order — in every state of every schedule** -/
theorem DId.micro : ∀ rt, MReach rt → ∀ s, DIdP s (getS rt s) rt.client := by
  apply MReach.inv' (fun rt => ∀ s, DIdP s (getS rt s) rt.client)
  · intro ring cfgs prog s _ _ _
    rw [getS_initRT]
    split
    · exact DId.init ring _ prog s
    · exact DId.default prog s
  · intro s a ha rt hr hg h
    refine all_setS_cl DIdP rt s _ ?_ h
    intro he hm hF
    rw [src_keeps_F s a ha] at hF
    exact DId.src s rt.client rt.state a ha _ hg (TInvAll.micro rt hr s) (DUse.micro rt hr s (Here.intro _) hm) (DLog.micro rt hr s (Here.intro _) hm) hF (h s (Here.intro _) hm hF)
  · intro s a ha rt _ hg h
    refine all_setS_cl DIdP rt s _ ?_ h
    intro he hm hF
    rw [flt_keeps_F a ha] at hF
    exact DId.flt s rt.client a ha _ hg (h s (Here.intro _) hm hF)
  · intro s a ha rt hr hg h
    refine all_setS_cl DIdP rt s _ ?_ h
    intro he hm hF
    rw [snk_keeps_F s a ha] at hF
    exact DId.snk s rt.client rt.state a ha _ hg (TInvAll.micro rt hr s) (DUse.micro rt hr s (Here.intro _) hm) (h s (Here.intro _) hm hF)
  · intro a ha rt hr hg h
    exact client_all DId.Kept DId.client a ha rt (TInvAll.micro rt hr) (DUse.micro rt hr) (DLog.micro rt hr) hg h

end AcqVerif.Runtime
