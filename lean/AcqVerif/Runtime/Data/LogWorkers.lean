import AcqVerif.Runtime.Data.LogDef
/-! # M1 — `DLog` is kept by every action of the worker threads -/
namespace AcqVerif.Runtime
open AcqVerif.Channel

theorem DLog.of_and {s : Nat} {st : Stream} {cl : Client}
    (h : (FramesOk st.sinkFrames st.F (cv st.sinkCh).total) ∧
      (st.sto.clean = true → st.sto.base ≤ st.sto.appended ∧ st.sto.appended ≤ (cv st.sinkCh).total ∧
              st.sto.log = framesIn st.sinkFrames st.sto.base (st.sto.appended - st.sto.base)) ∧
      (st.sto.clean = true → st.snk.pc ≠ .done → logpos st = st.sto.appended) ∧
      (st.sto.clean = true → 2 ≤ stage cl.pc s → stage cl.pc s ≤ 4 → (cv st.sinkCh).i0 = st.sto.appended)) : DLog s st cl :=
  let ⟨a1,a2,a3,a4⟩ := h
  ⟨a1,a2,a3,a4⟩

theorem addFrame_cases (fs : List (Nat × Frame)) (t0 t1 : Nat) (cur : Option Frame) :
    addFrame fs t0 t1 cur = fs ∨ (t0 < t1 ∧ ∃ fr, addFrame fs t0 t1 cur = fs ++ [(t0, fr)]) := by
  unfold addFrame
  cases cur with
  | none => left; rfl
  | some fr =>
    simp only
    split
    · right; exact ⟨by omega, fr, rfl⟩
    · left; rfl

theorem DLog.src (s : Nat) (cl : Client) : ∀ a ∈ srcActs s, ∀ st, a.guard st = true → DUse s st cl → DLog s st cl → DLog s (a.upd st) cl := by
  intro a ha st hg hu h
  have hwo := hu.wmap_ok; have hwr := wmap_refused st.sinkCh st.F; have hab := hu.wabort
  obtain ⟨d1, d2, d3, d4⟩ := h
  unfold srcActs at ha
  each_action ha
  all_goals (simp only [setSrcPc, atWmap, wmapOut, wmapSys, chanOp, ← cv_total, Bool.and_eq_true, Bool.or_eq_true, decide_eq_true_eq,
      Bool.not_eq_true', ne_eq] at hg ⊢)
  -- src.commit
  case inr.inr.inr.inr.inr.inr.inr.inr.inr.inr.inr.inr.inr.inr.inr.inr.inr.inr.inl =>
    rcases hu.wcommit hg.1 with ⟨hcn, hs⟩ | ⟨hcn, hok, hcv⟩
    · simp only [hs, hcn, addFrame]; exact ⟨d1, d2, d3, d4⟩
    · apply DLog.of_and
      simp only [logpos, hcv]
      rcases addFrame_cases st.sinkFrames (cv st.sinkCh).total ((cv st.sinkCh).total + if (cv st.sinkCh).acc then st.F else 0) st.src.cur
        with e | ⟨hlt, fr, e⟩
      · rw [e]
        exact ⟨d1.mono (by omega), fun hc => let ⟨a1, a2, a3⟩ := d2 hc; ⟨a1, by omega, a3⟩, d3, d4⟩
      · have hacc : (cv st.sinkCh).acc = true := by
          cases ha : (cv st.sinkCh).acc with
          | true => rfl
          | false => rw [ha] at hlt; simp at hlt
        simp only [hacc, ite_true] at e ⊢
        rw [e]
        refine ⟨d1.snoc fr, fun hc => ?_, d3, d4⟩
        obtain ⟨a1, a2, a3⟩ := d2 hc
        refine ⟨a1, by omega, ?_⟩
        rw [framesIn_snoc_out _ _ _ _ (by omega)]
        exact a3
  all_goals (apply DLog.of_and; dsimp only; (try simp only [logpos] at *); grind (splits := 16))

theorem DLog.flt (s : Nat) (cl : Client) : ∀ a ∈ fltActs, ∀ st, a.guard st = true → DLog s st cl → DLog s (a.upd st) cl := by
  intro a ha st hg h
  obtain ⟨d1, d2, d3, d4⟩ := h
  unfold fltActs at ha
  each_action ha
  all_goals (exact ⟨d1, d2, d3, d4⟩)

theorem DLog.snk (s : Nat) (cl : Client) (rs : DevState) : ∀ a ∈ snkActs s, ∀ st, a.guard st = true → TInv s st cl rs → DUse s st cl →
    DLog s st cl → DLog s (a.upd st) cl := by
  intro a ha st hg ht hu h
  obtain ⟨k1, k2, k3, k4, k5, k6, k7, k8, k9, k10, k11, k12, k13, k14⟩ := hu
  obtain ⟨d1, d2, d3, d4⟩ := h
  have t1 := ht.start_snk; have t3 := ht.joined_snk; have hs8 := stage_le cl.pc s
  have hch := clHolds0_stop cl.pc s
  have hn1 := nrd_pos k3
  have hrm := cv_rmap0 k1 hn1
  have hru := fun k => cv_runmap0 k1 k hn1
  have hac := cv_accept k1 false
  have hle := cv_i0_le k1 hn1
  have hml := mapped_pos0 k1 hn1
  unfold snkActs at ha
  each_action ha
  all_goals (simp only [setSnkPc, snkRead, snkFrames, notifySink, chanOp, outLen_eq, getD0_eq, getD_idx0, Bool.and_eq_true,
      decide_eq_true_eq, Bool.not_eq_true', ne_eq] at hg ⊢)
  -- snk.append.ok
  case inr.inr.inr.inr.inr.inr.inr.inr.inr.inr.inr.inr.inl =>
    have hpos := k10 (by rw [hg.1]; rfl)
    have hne : st.snk.pc ≠ .done := by rw [hg.1]; simp
    have hnr : st.snk.pc ≠ .runmapLock := by rw [hg.1]; simp
    constructor
    · exact d1
    · intro hc
      obtain ⟨a1, a2, a3⟩ := d2 hc
      have hal := d3 hc hne
      simp only [logpos, if_neg hnr] at hal
      have hidx : st.sto.appended = st.snk.idx := by rw [← hal, hpos.1]
      dsimp only
      refine ⟨by omega, by rw [← hpos.1, ← hpos.2]; exact hle, ?_⟩
      rw [a3, hidx]
      have hb : st.sto.base ≤ st.snk.idx := by omega
      have := framesIn_split st.sinkFrames st.F st.sto.base (st.snk.idx - st.sto.base) st.snk.len d1.1
      rw [show st.sto.base + (st.snk.idx - st.sto.base) = st.snk.idx by omega] at this
      rw [this]
      congr 1; omega
    · intro _ _; simp [logpos]
    · intro hc h2 h4; have := t1 (by omega) h4; rw [hg.1] at this; cases this
  all_goals (apply DLog.of_and; dsimp only; (try simp only [logpos, snkHold] at *); grind (splits := 16))

/-- what a client action has to keep, given the earlier invariants -/
def DLog.Kept (a : Act RT) : Prop :=
  ∀ rt, TInvAll rt → (∀ s, DUseP s (getS rt s) rt.client) → a.guard rt = true → (∀ s, DLogP s (getS rt s) rt.client) →
    ∀ s, DLogP s (getS (a.upd rt) s) (a.upd rt).client

end AcqVerif.Runtime
