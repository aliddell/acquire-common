import AcqVerif.Runtime.Data.StopWorkers
/-! # M1 — `DStop` is kept by every client action, and holds in every state any schedule reaches -/
namespace AcqVerif.Runtime
open AcqVerif.Channel

theorem DStop.of_view {s : Nat} {st : Stream} {cl cl' : Client} (h : DStop s st cl)
    (e1 : stage cl'.pc s = stage cl.pc s) (e2 : pastAccFalse cl'.pc s = pastAccFalse cl.pc s) (e3 : quiet cl'.pc = quiet cl.pc) (e4 : pendingFrom cl'.pc = pendingFrom cl.pc) (e5 : afterErrStop cl'.pc = afterErrStop cl.pc) (e6 : cl'.startFailed = cl.startFailed) (e7 : cl'.aborting = cl.aborting) : DStop s st cl' := by
  cases h; constructor <;> (try simp only [e1, e2, e3, e4, e5, e6, e7]) <;> assumption

set_option maxHeartbeats 800000 in
theorem DStop.client (s0 : Nat) : ∀ a ∈ clientFamilies s0, DStop.Kept a := by
  intro a ha rt hT hU hE hg h s' _ hm' hF'
  obtain ⟨eF, hmis⟩ := client_keeps ha rt hg s'
  have hm := hmis hm'
  have hF : 0 < (getS rt s').F := eF ▸ hF'
  have tS := (hT s').start_src; have tK := (hT s').start_snk; have tF := (hT s').start_flt; have tJ := (hT s').joined_snk; have tE := (hT s').after_err_stop; have tV := (hT s').start_valid
  have tJs := (hT s').joined_src; have tJf := (hT s').joined_flt; have tP := (hT s').pending; have tI := (hT s').invalid; have tB := (hT s').joined_below
  have hs8 := stage_le rt.client.pc s'
  have hch := clHolds0_stop rt.client.pc s'
  have hvr := valid_in_range rt s'
  have hnvv := nv_spec rt s0
  have hnvn := nv_none rt s0
  obtain ⟨k1, k2, k3, k4, k5, k6, k7, k8, k9, k10, k11, k12, k13, k14⟩ := hU s' (Here.intro _) hm
  have hEE := hE s' (Here.intro _) hm hF
  have w2 := hEE.w2; have w4 := hEE.w4; have w5 := hEE.w5; have w6 := hEE.w6; have e10b := hEE.drained_pc
  have hOld := h s' (Here.intro _) hm hF
  have ⟨c1, c2, c3, c4, c7, c7a, c8, y, yq, yqs, yqx, yqe, yend⟩ := hOld
  have hn1 := nrd_pos k3
  have hrm0 := cv_rmap0 k1 hn1
  have hru0 := fun k => cv_runmap0 k1 k hn1
  have hrm1 := cv_rmap1 k1
  have hru1 := fun k => cv_runmap1 k1 k
  have hac := fun b => cv_accept k1 b
  have hj := cv_join1 k1
  have hbad := fun k => runmap1_bad k1 k
  clear hT hU hE hEE h hF' eF hmis
  simp only [getS, snkHold, snkErr, snkErrLate, srcHold, srcFin, clHolds0, clFlush1, clFlush1Free, AllDone] at *
  unfold clientFamilies clientPerStream clientBase clMon clCfg clStart clErr clStop clAcc clientFlush at ha
  each_action ha
  expose_streams
  all_goals (try (simp only [isOp, atPc, notifySink, setReaderChan, readerChan, readerIdx, flushRead, mapRead, mapMoved, chanOp,
      lockOk, monMapped, outLen_eq, getS, getD0_eq, getD_idx0, getD1_eq, getD_idx1, getD_stopAllFilters, markFlt,
      Bool.and_eq_true, Bool.or_eq_true, decide_eq_true_eq, Bool.not_eq_true', ne_eq] at hg ⊢))
  all_goals (try (simp at hg; done))
  all_goals (repeat' split)
  all_goals (first | (refine DStop.of_view hOld ?_ ?_ ?_ ?_ ?_ ?_ ?_ <;> simp only [hg, stage, pastAccFalse, pastAccIdx, quiet,
      pendingFrom, stopBelow, afterErrStop, inAbort, reduceCtorEq, Option.isNone_none, Option.isNone_some, Option.isSome_none,
      Option.isSome_some, Bool.or_false, Bool.false_or, Bool.and_self, Bool.not_false, Bool.not_true, Bool.and_false,
      Bool.false_and] <;> done) | skip)
  all_goals (apply DStop.of_and)
  all_goals (try dsimp only)
  all_goals ((try simp only [snkHold, snkErr, snkErrLate, srcHold, srcFin, clHolds0, clFlush1, clFlush1Free, AllDone, stage,
      stopStage, stopBelow, afterErrStop, pastAccFalse, pastAccIdx, quiet, pendingFrom,
      inAbort] at ⊢) <;> grind (splits := 16) [stage, stopStage, stopBelow, afterErrStop, pastAccFalse, pastAccIdx, quiet,
      pendingFrom, inAbort])

theorem DStop.init (ring : Nat) (c : Option StreamCfg) (prog : List COp) (s : Nat) : DStop s (initStream ring c) { prog := prog } := by
  cases c <;> (constructor <;> simp [initStream, stage, srcFin, snkErrLate, pastAccFalse, pastAccIdx, stopBelow, afterErrStop, quiet, pendingFrom])

theorem DStop.default (prog : List COp) (s : Nat) : DStop s {} { prog := prog } := by
  constructor <;> simp [stage, srcFin, snkErrLate, pastAccFalse, pastAccIdx, stopBelow, afterErrStop, quiet, pendingFrom]

/-- **who may stop whom, and refused writes stay refused — in every state of every schedule** -/
theorem DStop.micro : ∀ rt, MReach rt → ∀ s, DStopP s (getS rt s) rt.client := by
  apply MReach.inv' (fun rt => ∀ s, DStopP s (getS rt s) rt.client)
  · intro ring cfgs prog s _ _ _
    rw [getS_initRT]
    split
    · exact DStop.init ring _ prog s
    · exact DStop.default prog s
  · intro s a ha rt hr hg h
    refine all_setS_cl DStopP rt s _ ?_ h
    intro he hm hF
    rw [src_keeps_F s a ha] at hF
    exact DStop.src s rt.client rt.state a ha _ hg (TInvAll.micro rt hr s) (DUse.micro rt hr s (Here.intro _) hm) (h s (Here.intro _) hm hF)
  · intro s a ha rt hr hg h
    refine all_setS_cl DStopP rt s _ ?_ h
    intro he hm hF
    rw [flt_keeps_F a ha] at hF
    exact DStop.flt s rt.client rt.state a ha _ hg (TInvAll.micro rt hr s) (DUse.micro rt hr s (Here.intro _) hm) (h s (Here.intro _) hm hF)
  · intro s a ha rt hr hg h
    refine all_setS_cl DStopP rt s _ ?_ h
    intro he hm hF
    rw [snk_keeps_F s a ha] at hF
    exact DStop.snk s rt.client rt.state a ha _ hg (TInvAll.micro rt hr s) (DUse.micro rt hr s (Here.intro _) hm) (DEnd.micro rt hr s (Here.intro _) hm hF)
      (h s (Here.intro _) hm hF)
  · intro a ha rt hr hg h
    exact client_all DStop.Kept DStop.client a ha rt (TInvAll.micro rt hr) (DUse.micro rt hr) (DEnd.micro rt hr) hg h

end AcqVerif.Runtime
