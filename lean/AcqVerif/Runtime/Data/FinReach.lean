import AcqVerif.Runtime.Data.FinDef
/-! # M1 — `DFin` is kept by the client actions; the completeness of an undisturbed acquisition -/
namespace AcqVerif.Runtime
open AcqVerif.Channel

theorem DFin.of_view {s : Nat} {st : Stream} {cl cl' : Client} (h : DFin s st cl)
    (e1 : stage cl'.pc s = stage cl.pc s) : DFin s st cl' := by
  cases h; constructor <;> (try simp only [e1]) <;> assumption

theorem DFin.client (s0 : Nat) : ∀ a ∈ clientFamilies s0, DFin.Kept a := by
  intro a ha rt hT hg h s' _ hm' hF'
  obtain ⟨eF, hmis⟩ := client_keeps ha rt hg s'
  have hm := hmis hm'
  have hF : 0 < (getS rt s').F := eF ▸ hF'
  have tS := (hT s').start_src; have tV := (hT s').start_valid; have tP := (hT s').pending
  have hs8 := stage_le rt.client.pc s'
  have hvr := valid_in_range rt s'
  have hnvv := nv_spec rt s0
  have hOld := h s' (Here.intro _) hm hF
  have ⟨f1⟩ := hOld
  clear hT h hF' eF hmis
  simp only [getS, srcFin] at *
  unfold clientFamilies clientPerStream clientBase clMon clCfg clStart clErr clStop clAcc clientFlush at ha
  each_action ha
  expose_streams
  all_goals (try (simp only [isOp, atPc, notifySink, setReaderChan, readerChan, readerIdx, getS, getD_stopAllFilters, markFlt,
      Bool.and_eq_true, Bool.or_eq_true, decide_eq_true_eq, Bool.not_eq_true', ne_eq] at hg ⊢))
  all_goals (try (simp at hg; done))
  all_goals (repeat' split)
  all_goals (first | (refine DFin.of_view hOld ?_ <;> simp only [hg, stage] <;> done) | skip)
  all_goals (apply DFin.of_and)
  all_goals (try dsimp only)
  all_goals ((try simp only [srcFin, stage] at ⊢) <;> grind (splits := 16) [stage])

theorem DFin.micro : ∀ rt, MReach rt → ∀ s, DFinP s (getS rt s) rt.client := by
  apply MReach.inv' (fun rt => ∀ s, DFinP s (getS rt s) rt.client)
  · intro ring cfgs prog s _ _ _
    rw [getS_initRT]
    split
    · rename_i hlt; cases cfgs[s] <;> exact ⟨by simp [initStream]⟩
    · exact ⟨by simp⟩
  · intro s a ha rt hr hg h
    refine all_setS_cl DFinP rt s _ ?_ h
    intro he hm hF
    rw [src_keeps_F s a ha] at hF
    exact DFin.src s rt.client rt.state a ha _ hg (TInvAll.micro rt hr s) (DId.micro rt hr s (Here.intro _) hm hF) (h s (Here.intro _) hm hF)
  · intro s a ha rt _ hg h
    refine all_setS_cl DFinP rt s _ ?_ h
    intro he hm hF
    rw [flt_keeps_F a ha] at hF
    exact DFin.flt s rt.client a ha _ hg (h s (Here.intro _) hm hF)
  · intro s a ha rt _ hg h
    refine all_setS_cl DFinP rt s _ ?_ h
    intro he hm hF
    rw [snk_keeps_F s a ha] at hF
    exact DFin.snk s rt.client a ha _ hg (h s (Here.intro _) hm hF)
  · intro a ha rt hr hg h
    exact client_all DFin.Kept DFin.client a ha rt (TInvAll.micro rt hr) hg h

end AcqVerif.Runtime
