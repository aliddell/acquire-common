import AcqVerif.Runtime.Data.MonDef
/-! # M1 — `DMon` is kept by every action of the worker threads -/
namespace AcqVerif.Runtime
open AcqVerif.Channel

theorem DMon.of_and {s : Nat} {st : Stream} {cl : Client}
    (h : (st.monFlushed = true → st.monReg = true ∧ (cv st.sinkCh).i1 = (cv st.sinkCh).total ∧ st.src.pc = .done) ∧
      (st.sto.monFresh = true → st.monReg = true ∧ st.sto.base ≤ (cv st.sinkCh).i1) ∧
      ((cl.pc = .flushAfterRead s 1 ∨ cl.pc = .flushRmapNotify s 1) → cl.flushLen = 0 → (cv st.sinkCh).i1 = (cv st.sinkCh).total)) : DMon s st cl :=
  let ⟨a1,a2,a3⟩ := h
  ⟨a1,a2,a3⟩

theorem DMon.src (s : Nat) (cl : Client) (rs : DevState) : ∀ a ∈ srcActs s, ∀ st, a.guard st = true → TInv s st cl rs → DUse s st cl → DMon s st cl → DMon s (a.upd st) cl := by
  intro a ha st hg ht hu h
  -- the client flushes the monitor reader only after it has joined the source
  have hfl : cl.pc = .flushAfterRead s 1 ∨ cl.pc = .flushRmapNotify s 1 → st.src.pc = .done := by
    intro h; apply ht.joined_src; rcases h with h | h <;> simp [h, stopStage]
  have hwo := hu.wmap_ok; have hwr := wmap_refused st.sinkCh st.F; have hab := hu.wabort; have hcm := hu.wcommit
  obtain ⟨m1, m2, m3⟩ := h
  unfold srcActs at ha
  each_action ha
  all_goals (simp only [setSrcPc, atWmap, wmapOut, wmapSys, chanOp, Bool.and_eq_true, Bool.or_eq_true, decide_eq_true_eq,
      Bool.not_eq_true', ne_eq] at hg ⊢)
  all_goals (apply DMon.of_and; dsimp only; grind (splits := 16))

theorem DMon.flt (s : Nat) (cl : Client) : ∀ a ∈ fltActs, ∀ st, a.guard st = true → DMon s st cl → DMon s (a.upd st) cl := by
  intro a ha st hg h
  obtain ⟨m1, m2, m3⟩ := h
  unfold fltActs at ha
  each_action ha
  all_goals (exact ⟨m1, m2, m3⟩)

theorem DMon.snk (s : Nat) (cl : Client) (rs : DevState) : ∀ a ∈ snkActs s, ∀ st, a.guard st = true → TInv s st cl rs → DUse s st cl → DMon s st cl → DMon s (a.upd st) cl := by
  intro a ha st hg ht hu h
  have t1 := ht.start_snk; have t3 := ht.joined_snk; have hs8 := stage_le cl.pc s
  have hch := clHolds0_stop cl.pc s
  obtain ⟨k1, k2, k3, k4, k5, k6, k7, k8, k9, k10, k11, k12, k13, k14⟩ := hu
  obtain ⟨m1, m2, m3⟩ := h
  have hn1 := nrd_pos k3
  have hrm := cv_rmap0 k1 hn1
  have hru := fun k => cv_runmap0 k1 k hn1
  have hac := cv_accept k1 false
  unfold snkActs at ha
  each_action ha
  all_goals (simp only [setSnkPc, snkRead, snkFrames, notifySink, chanOp, outLen_eq, getD0_eq, getD_idx0, Bool.and_eq_true,
      decide_eq_true_eq, Bool.not_eq_true', ne_eq] at hg ⊢)
  all_goals (apply DMon.of_and; dsimp only; (try simp only [snkHold] at *); grind (splits := 16))

/-- what a client action has to keep, given the earlier invariants -/
def DMon.Kept (a : Act RT) : Prop :=
  ∀ rt, TInvAll rt → (∀ s, DUseP s (getS rt s) rt.client) → a.guard rt = true →
    (∀ s, DMonP s (getS rt s) rt.client) → ∀ s, DMonP s (getS (a.upd rt) s) (a.upd rt).client

end AcqVerif.Runtime
